import DvcData.Model.Basic
import DvcData.Model.Merge
import DvcData.Proofs.AList
import DvcData.Proofs.Merge
import DvcData.Props.C19
import DvcData.Model.Md5
import DvcData.Model.Hash
import DvcData.Props.C14
import DvcData.Model.Path
import DvcData.Model.Json
import DvcData.Model.MetaInfo
import DvcData.Model.Tree
import DvcData.Proofs.Path
import DvcData.Proofs.Tree
import DvcData.Proofs.Json
import DvcData.Proofs.JsonParse
import DvcData.Props.C03
import DvcData.Model.Serialize
import DvcData.Props.C20
import DvcData.Model.Status
import DvcData.Model.Transfer
import DvcData.Proofs.Sets
import DvcData.Props.C06
import DvcData.Model.StoreLayout
import DvcData.Props.C06b
import DvcData.Proofs.Transfer
import DvcData.Props.C04
import DvcData.Model.TransferR
import DvcData.Props.C11b
import DvcData.Props.C12
import DvcData.Model.IndexDiff
import DvcData.Props.C08
import DvcData.Model.IndexCheckout
import DvcData.Props.C09
import DvcData.Props.C09b
import DvcData.Props.C09c
import DvcData.Props.C09d
import DvcData.Model.IndexSave
import DvcData.Props.C08b
import DvcData.Model.State
import DvcData.Props.C13
import DvcData.Model.IndexUpdate
import DvcData.Props.C13b
import DvcData.Model.Store
import DvcData.Props.C07
import DvcData.Model.StoreAdd
import DvcData.Props.C07b
import DvcData.Model.Checkout
import DvcData.Props.C05
import DvcData.Model.CheckoutNone
import DvcData.Props.C05b
import DvcData.Props.C10
import DvcData.Model.LinkRecord
import DvcData.Props.C10b
import DvcData.Model.Build
import DvcData.Props.C02
import DvcData.Model.Staging
import DvcData.Props.C02b
import DvcData.Model.IndexLazy
import DvcData.Proofs.Lazy
import DvcData.Props.C17
import DvcData.Model.FsPath
import DvcData.Props.C17b
import DvcData.Model.PushFetch
import DvcData.Props.C18
import DvcData.Model.Fetch
import DvcData.Props.C18b
import DvcData.Model.StorageMap
import DvcData.Props.C18c
import DvcData.Model.Crash
import DvcData.Model.Conc
import DvcData.Proofs.Crash
import DvcData.Props.C15
import DvcData.Props.C16

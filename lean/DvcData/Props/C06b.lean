import DvcData.Model.StoreLayout
/-
  C06 on the directory layout: an object's path reads back as its identifier (`pathToOid_oidToPath`), only files two
  components below the root with a two-character first component are objects (`listed_shape`), so a store nested inside
  the collected store's directory, leftovers deeper down and stray files at the root are neither listed nor counted
  (`nested_not_listed`) and `gc` leaves every one of them where it is (`gc_touches_objects_only`, `gc_keeps_used_files`).
-/
namespace DvcData.StoreLayout
open DvcData List

/-- the path of an identifier of at least two characters reads back as that identifier -/
theorem pathToOid_oidToPath (oid : Oid) (h : 2 ≤ oid.length) : pathToOid (oidToPath oid) = some oid := by
  unfold pathToOid oidToPath
  have : (oid.take 2).length = 2 := by simp [List.length_take]; omega
  simp [this, List.take_append_drop]

/-- what is listed has the shape of an object path -/
theorem listed_shape (p : RelPath) (o : Oid) (h : pathToOid p = some o) :
    ∃ a b, p = [a, b] ∧ a.length = 2 ∧ o = a ++ b := by
  unfold pathToOid at h
  match p, h with
  | [a, b], h =>
    by_cases ha : a.length = 2
    · simp only [ha, if_true, Option.some.injEq] at h; exact ⟨a, b, rfl, ha, h.symm⟩
    · simp [ha] at h

/-- a file that is not exactly two components below the root - an object of a store nested deeper, a leftover inside an
    `.unpacked` directory, a stray file at the root - is not an object of this store -/
theorem nested_not_listed (p : RelPath) (h : p.length ≠ 2) : pathToOid p = none := by
  cases ho : pathToOid p with
  | none => rfl
  | some o =>
    obtain ⟨a, b, rfl, _⟩ := listed_shape p o ho
    exact absurd rfl h

/-- `gc` removes object paths only -/
theorem gc_touches_objects_only (files : List RelPath) (keep : List Oid) (p : RelPath) (h : p ∈ gcFiles files keep) :
    ∃ o, pathToOid p = some o ∧ o ∉ keep := by
  unfold gcFiles at h
  obtain ⟨_, hp⟩ := mem_filter.mp h
  cases ho : pathToOid p with
  | none => simp [ho] at hp
  | some o => simp only [ho] at hp; exact ⟨o, rfl, by simpa using hp⟩

/-- whatever is not an object path, and every object path of a used identifier, is still there afterwards -/
theorem gc_keeps_used_files (files : List RelPath) (keep : List Oid) (p : RelPath) (hp : p ∈ files)
    (h : pathToOid p = none ∨ ∃ o, pathToOid p = some o ∧ o ∈ keep) : p ∈ afterGc files keep := by
  unfold afterGc
  apply mem_filter.mpr
  refine ⟨hp, ?_⟩
  simp only [Bool.not_eq_true', List.contains_eq_mem, decide_eq_false_iff_not]
  intro hin
  obtain ⟨o, ho, hnk⟩ := gc_touches_objects_only files keep p hin
  rcases h with h | ⟨o', ho', hk⟩
  · rw [h] at ho; cases ho
  · rw [ho'] at ho; injection ho with ho; subst ho; exact hnk hk

/-- the hypotheses are met: the collected store holds `ab/cdef`, a store nested at `files/md5` holds `ab/cdef` too, a stray
    file sits at the root - one object is listed, and a gc that keeps nothing removes exactly that file -/
example :
    let files : List RelPath := [["ab".toList, "cdef".toList], ["files".toList, "md5".toList, "ab".toList, "cdef".toList], ["README".toList]]
    listOids files = ["abcdef".toList] ∧
    afterGc files [] = [["files".toList, "md5".toList, "ab".toList, "cdef".toList], ["README".toList]] := by
  decide

end DvcData.StoreLayout

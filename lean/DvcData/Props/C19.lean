import DvcData.Proofs.Merge
/-!
# C19 — three-way directory merge never silently loses or overrides an entry

Property theorems about `Merge.merge`, the model of `dvc_data.hashfile.tree._merge`.
`κ` is the type of paths, `ν` the type of `(meta, hash)` values; both arbitrary.
-/
namespace DvcData.Merge
open DvcData AList
variable {κ ν : Type} [DecidableEq κ] [DecidableEq ν]

/-! ### the three-way rule on one key -/

theorem threeWay_comm (a o t : Option ν) : threeWay a o t = threeWay a t o := by
  unfold threeWay
  by_cases h : o = t
  · subst h; rfl
  · rw [if_neg h, if_neg (Ne.symm h)]
    by_cases ho : o = a <;> by_cases ht : t = a <;> simp only [ho, ht, if_true, if_false]

theorem threeWay_eq_some {a o t x : Option ν} (h : threeWay a o t = some x) : x = o ∨ x = t := by
  revert h
  fun_cases threeWay a o t <;> intro h
  · cases h; exact Or.inl rfl
  · cases h; exact Or.inr rfl
  · cases h; exact Or.inl rfl
  · cases h

theorem threeWay_left (a t : Option ν) : threeWay a a t = some t := by
  rw [threeWay]
  by_cases h : a = t
  · rw [if_pos h, h]
  · rw [if_neg h, if_pos rfl]

theorem threeWay_right (a o : Option ν) : threeWay a o a = some o := by
  rw [threeWay_comm, threeWay_left]

/-! ### `merge` -/

/-- result of `patch (ddiff a x ++ ddiff a y) a`, pointwise -/
theorem patch_two {a x y r : AList κ ν} (hwa : WF a) (hwx : WF x) (hwy : WF y)
    (h : patch (ddiff a x ++ ddiff a y) a = some r) (k : κ) :
    r.lookup k = if a.lookup k = y.lookup k then x.lookup k else y.lookup k := by
  rw [patch_append] at h
  cases h1 : patch (ddiff a x) a with
  | none => rw [h1] at h; cases h
  | some m =>
    rw [h1] at h
    rw [patch_ddiff hwa hwy h k, patch_ddiff_self hwa hwx h1 k]

/-- the three successful branches of `merge`, with what was tested on the way to each -/
theorem merge_ok {allowed : List Kind} {a o t r : AList κ ν} (h : merge allowed a o t = .ok r) :
    allowedOk allowed (ddiff a o) = true ∧
    ((ddiff a o).isEmpty = true ∧ r = t ∨
     allowedOk allowed (ddiff a t) = true ∧
      ((ddiff a t).isEmpty = true ∧ r = o ∨
       ∃ r2, patch (ddiff a o ++ ddiff a t) a = some r ∧ patch (ddiff a t ++ ddiff a o) a = some r2 ∧
         dictEq r r2 = true)) := by
  have ok : ∀ {b : Bool}, ¬(!b) = true → b = true := fun {b} => by cases b <;> simp
  revert h
  fun_cases merge allowed a o t <;> intro h
  -- the branches of `merge`, in its order: our diff not allowed; ours empty; their diff not allowed; theirs empty;
  -- both orders patched and equal; patched and unequal; a patch failed
  · cases h
  · next h1 he => cases h; exact ⟨ok h1, Or.inl ⟨he, rfl⟩⟩
  · cases h
  · next h1 _ _ h2 he => cases h; exact ⟨ok h1, Or.inr ⟨ok h2, Or.inl ⟨he, rfl⟩⟩⟩
  · -- `e1` is the patch in the order ours-theirs (result `r1 = r`), `e2` theirs-ours; the `match` binds `e2` first
    next h1 _ _ h2 _ r1 r2 e2 e1 he => cases h; exact ⟨ok h1, Or.inr ⟨ok h2, Or.inr ⟨r2, e1, e2, he⟩⟩⟩
  · cases h
  · cases h

/-- **C19 (main).** A successful merge is exactly the three-way merge: every path takes the side that
    changed it, or the common value; in particular no conflict path exists when the merge succeeds.
    Holds for every allowed-operations policy, every key universe, all listings. -/
theorem merge_ok_threeway (allowed : List Kind) (a o t r : AList κ ν)
    (hwa : WF a) (hwo : WF o) (hwt : WF t)
    (h : merge allowed a o t = .ok r) (k : κ) :
    threeWay (a.lookup k) (o.lookup k) (t.lookup k) = some (r.lookup k) := by
  obtain ⟨-, ⟨he, rfl⟩ | ⟨-, ⟨he, rfl⟩ | ⟨r2, h1, h2, he⟩⟩⟩ := merge_ok h
  · rw [← ddiff_isEmpty hwa hwo he k, threeWay_left]
  · rw [← ddiff_isEmpty hwa hwt he k, threeWay_right]
  · -- the two orders of applying the diffs agree at `k` only where the rule has an answer, and then they are it
    have e := dictEq_lookup he k
    rw [patch_two hwa hwo hwt h1 k, patch_two hwa hwt hwo h2 k] at e
    rw [patch_two hwa hwo hwt h1 k]
    generalize a.lookup k = a', o.lookup k = o', t.lookup k = t' at e ⊢
    by_cases ht : a' = t'
    · subst ht; rw [if_pos rfl, threeWay_right]
    · by_cases ho : a' = o'
      · subst ho; rw [if_neg ht, threeWay_left]
      · rw [if_neg ht, if_neg ho] at e
        rw [if_neg ht, threeWay, if_pos e.symm, e]

/-- whenever both argument orders succeed they give the same result -/
theorem merge_comm (allowed : List Kind) (a o t r1 r2 : AList κ ν)
    (hwa : WF a) (hwo : WF o) (hwt : WF t)
    (h1 : merge allowed a o t = .ok r1) (h2 : merge allowed a t o = .ok r2) (k : κ) :
    r1.lookup k = r2.lookup k := by
  have e1 := merge_ok_threeway allowed a o t r1 hwa hwo hwt h1 k
  have e2 := merge_ok_threeway allowed a t o r2 hwa hwt hwo h2 k
  rw [threeWay_comm, e2] at e1
  exact (Option.some.inj e1).symm

/-- nothing is dropped or resurrected: a path absent from the result is absent from, or was removed
    by, a side; a path present in the result has a value that one of the two sides has. -/
theorem merge_no_invention (allowed : List Kind) (a o t r : AList κ ν)
    (hwa : WF a) (hwo : WF o) (hwt : WF t)
    (h : merge allowed a o t = .ok r) (k : κ) :
    r.lookup k = o.lookup k ∨ r.lookup k = t.lookup k :=
  threeWay_eq_some (merge_ok_threeway allowed a o t r hwa hwo hwt h k)

/-- under the default policy a diff passes only if it adds: it touches no key of `a` -/
theorem only_adds {a b : AList κ ν} (hwa : WF a) (hwb : WF b) (h : allowedOk [] (ddiff a b) = true)
    (k : κ) (hk : a.lookup k ≠ none) : b.lookup k = a.lookup k := by
  refine Decidable.byContradiction fun e => ?_
  obtain ⟨r, hr, rfl⟩ := ddiff_complete hwa hwb (Ne.symm e)
  have hadd : r.kind = .add := by simpa [allowedOk, effAllowed] using List.all_eq_true.mp h r hr
  exact hk ((ddiff_sound hwa hwb hr).2.2.1.mp hadd)

/-- With the default policy (`allowed = None`) a merge that really combines changes from both
    sides succeeded only if both sides merely added entries: every ancestor path is untouched. -/
theorem merge_default_policy (a o t r : AList κ ν)
    (hwa : WF a) (hwo : WF o) (hwt : WF t)
    (h : merge [] a o t = .ok r)
    (ho : (ddiff a o).isEmpty = false) (ht : (ddiff a t).isEmpty = false) (k : κ)
    (hk : a.lookup k ≠ none) : o.lookup k = a.lookup k ∧ t.lookup k = a.lookup k := by
  obtain ⟨hao, ⟨he, -⟩ | ⟨hat, -⟩⟩ := merge_ok h
  · rw [ho] at he; cases he
  · exact ⟨only_adds hwa hwo hao k hk, only_adds hwa hwt hat k hk⟩

/-! ### non-vacuity: concrete listings that satisfy the hypotheses -/

example : merge (κ := Nat) (ν := Nat) [.add, .remove, .change]
    [(1, 10), (2, 20), (3, 30)] [(1, 11), (2, 20), (4, 40)] [(1, 10), (3, 30), (5, 50)]
    = .ok [(1, 11), (4, 40), (5, 50)] := by decide

example : merge (κ := Nat) (ν := Nat) [] [(1, 10)] [(1, 10), (2, 20)] [(1, 10), (3, 30)]
    = .ok [(1, 10), (2, 20), (3, 30)] := by decide

/-- remove-vs-change is a conflict, reported as a merge error (F5) -/
example : merge (κ := Nat) (ν := Nat) [.add, .remove, .change]
    [(1, 10), (2, 20)] [(2, 20)] [(1, 11), (2, 20)] = .mergeError := by decide

example : WF ([(1, 10), (2, 20), (3, 30)] : AList Nat Nat) := by decide

end DvcData.Merge

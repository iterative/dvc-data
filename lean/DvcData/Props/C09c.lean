import DvcData.Props.C09b
/-!
# C09 — a second compare finds nothing left to create or delete

After `apply (compare true (indexOfWs ws) T) ws = ok ws'` the workspace `ws'` holds exactly the target's files
(`apply_compare_converges`), directories only where the target has a node (`DirInv`), and a directory at every
explicit directory entry of the target (`TDirs`): `apply_compare_final`.  Comparing any workspace with these three
properties with the target schedules no file or directory for creation or deletion (`compare_settled`), hence
`second_compare_nothing_left`.  What the second compare may still schedule is a `chmod` (the executable bit is only
ever added: a file that is executable in the workspace but not in the target stays so).
-/
namespace DvcData.IndexCheckout
open DvcData Path MetaInfo IndexDiff

/-! ### a target directory where the old side has no directory is scheduled for creation -/

theorem compare_schedules_dir_create (delete : Bool) (old new : Option Index) (hwo : WFOpt old) (hwn : WFOpt new)
    (k : Key) (n : Entry) (hn : entryOf new k = some n) (hdir : isDirE n = true)
    (hneed : diffEntry { cmp := .dirExec } (entryOf old k) (some n) = .add ∨
      (diffEntry { cmp := .dirExec } (entryOf old k) (some n) = .modify ∧
        ∃ o, entryOf old k = some o ∧ isDirE o = false)) :
    (k, n) ∈ (compare delete old new).dirsCreate := by
  obtain ⟨b, hle⟩ := compare_complete delete hwo hwn k (by rw [hn]; rcases hneed with h | ⟨h, _⟩ <;> simp [h])
  refine hle.dirsCreate _ ?_
  rw [hn]
  rcases hneed with h | ⟨h, o, ho, hof⟩
  · rw [h, Option.map_some, stepChange_add]
    exact (mem_addCreate_dirsCreate ..).mpr (.inr ⟨rfl, hdir⟩)
  · rw [h, ho, Option.map_some, Option.map_some,
      stepChange_replace (k, o) (k, n) ⟨.inr (by rw [hof, hdir]; simp), by simp [hof]⟩]
    exact (mem_addCreate_dirsCreate ..).mpr (.inr ⟨rfl, hdir⟩)

/-! ### a directory is scheduled for creation only where the old side has no directory -/

def DcInv (old : Option Index) (a : Actions) : Prop :=
  ∀ p ∈ a.dirsCreate, ∀ o, entryOf old p.1 = some o → isDirE o = false

theorem compare_dcInv (old new : Option Index)
    (hom : ∀ k e, entryOf old k = some e → e.mt.isSome = true) (hnm : ∀ k e, entryOf new k = some e → e.mt.isSome = true) :
    DcInv old (compare true old new) := by
  refine compare_ind true old new (fun _ hp => (List.not_mem_nil hp).elim) (fun a k n hn hr ha q hq o ho => ?_)
    (fun a k o _ _ ha => ?_) (fun a k n _ _ ha => ha)
  · rcases (mem_addCreate_dirsCreate ..).mp hq with hq | ⟨rfl, hd⟩
    · exact ha q hq o ho
    · -- a modification creates a directory only over a file; an addition has nothing on the old side
      rcases hr with ht | ⟨_, o', ho', hc⟩
      · exact absurd (ho ▸ ht) (diffEntry_ne_add_delete _ rfl rfl o n (hom k o ho) (hnm k n hn)).1
      · cases ho.symm.trans ho'; simpa [hd] using hc.2
  · unfold DcInv; rw [addDelete_dirsCreate]; exact ha

/-! ### the workspace after `apply`: directories -/

/- The arguments follow `section classify` of C09b: `hw ht` first; a lemma with `variable {..} in` in front takes
   `cache ws T` implicitly, while `tdir_unscheduled`, `apply_compare_final` and `second_compare_nothing_left` take them
   explicitly, before `hw ht`. -/
section final
variable (cache : List Str) (ws : Ws) (T : Index) (hw : WsOK ws) (ht : TargetOK cache T)

/-- directories sit only where the target has a node -/
def DirInv (w : Ws) : Prop := ∀ q, w.lookup q = some .dir → TAbove T q

/-- explicit directory entries of the target are directories -/
def TDirs (w : Ws) : Prop := ∀ q e, T.lookup q = some e → isDirE e = true → w.lookup q = some .dir

theorem DirInv.evolves {T : Index} {F : Key → Prop} {w w' : Ws} (hd : DirInv T w) (h : Evolves T F w w') :
    DirInv T w' := by
  intro q hq
  rcases h q with e | ⟨_, _, hab⟩ | ⟨_, _, _, oid, hf, _⟩
  · exact hd q (e ▸ hq)
  · exact hab
  · rw [hf] at hq; cases hq

theorem chmod_dir_iff (ps : List (Key × Entry)) (w : Ws) (q : Key) :
    (ps.foldl chmodFile w).lookup q = some .dir ↔ w.lookup q = some .dir := by
  rw [foldl_chmod_lookup]
  cases w.lookup q with
  | none => exact Iff.rfl
  | some n => cases n <;> simp

include hw ht

variable {cache ws T} in
theorem dirInv_ws2 : DirInv T (ws2 ws T) := by
  intro q hq
  obtain ⟨hws, _, hdd⟩ := (ws2_lookup_eq_some hw ht q _).mp hq
  exact Classical.byContradiction fun hn =>
    hdd (List.mem_map.mpr ⟨_, sched_dir_delete cache ws T hw ht q hws (not_tAbove hn), rfl⟩)

/-! ### explicit directory entries of the target are there at the end -/

/-- a target directory entry that is not scheduled for creation is a directory of the workspace, and survives both
    deletion phases -/
theorem tdir_unscheduled (q : Key) (e : Entry) (he : T.lookup q = some e) (hd : isDirE e = true)
    (hns : (q, e) ∉ (acts ws T).dirsCreate) : (ws2 ws T).lookup q = some .dir := by
  -- the workspace has a directory at `q`: nothing, or a file, would have a directory scheduled
  have hwsq : ws.lookup q = some .dir := by
    refine Classical.byContradiction fun hnd => hns ?_
    refine compare_schedules_dir_create true (some (indexOfWs ws)) (some T) (wfIdx_indexOfWs ws hw) ht.wf q e
      (by rw [entryOf_target cache T ht, he]) hd ?_
    rw [entryOf_ws]
    cases hk : ws.lookup q with
    | none => exact .inl (diffEntry_none_some _ rfl rfl e)
    | some n =>
      cases n with
      | dir => exact absurd hk hnd
      | file oid ex =>
        exact .inr ⟨diffEntry_kind _ e rfl (ht.hasMeta q e he) (by rw [hd]; nofun), _, rfl, rfl⟩
  -- and it is scheduled for neither deletion: not a file, and the target has a directory there
  refine (ws2_lookup_eq_some hw ht q _).mpr ⟨hwsq, fun hfd => ?_, fun hdd => ?_⟩
  · obtain ⟨p, hp, rfl⟩ := List.mem_map.mp hfd
    obtain ⟨oid, ex, hfile, _⟩ := fd_ws cache ws T ht p hp
    rw [hwsq] at hfile; cases hfile
  · obtain ⟨p, hp, rfl⟩ := List.mem_map.mp hdd
    exact dd_not_tAbove ht p hp ⟨p.1, e, he, List.prefix_refl _, fun _ => hd⟩

/-- **the workspace after a successful `apply`, completely**: files exactly as in the target, directories only where
    the target has a node, and a directory at every explicit directory entry of the target -/
theorem apply_compare_final :
    ∃ ws', apply cache (compare true (some (indexOfWs ws)) (some T)) ws = .ok ws' [] ∧
      (∀ k, oidAt ws' k = fileOid T k) ∧ DirInv T ws' ∧ TDirs T ws' := by
  obtain ⟨w3, w4, happ, he3, hd3, he4, hdone, hm4⟩ := apply_acts hw ht
  have hd4 : DirInv T w4 := ((dirInv_ws2 hw ht).evolves he3).evolves he4
  refine ⟨_, happ, fun k => (foldl_chmod_oidAt _ w4 k).trans (hm4.files hdone k),
    fun q hq => hd4 q ((chmod_dir_iff _ w4 q).mp hq), fun q e he hde => (chmod_dir_iff _ w4 q).mpr ?_⟩
  -- created in phase 3, or there all along; a directory stays one
  refine he4.keeps ?_ (.inr rfl)
  by_cases hs : (q, e) ∈ (acts ws T).dirsCreate
  · exact hd3 (q, e) hs
  · exact he3.keeps (tdir_unscheduled cache ws T hw ht q e he hde hs) (.inr rfl)

omit hw in
variable {cache T} in
/-- comparing a workspace that agrees with the target — files with the target's objects, directories only where the
    target has a node, a directory at every explicit directory entry — schedules nothing to create or delete -/
theorem compare_settled (w : Ws)
    (hname : ∀ k e h, T.lookup k = some e → isDirE e = false → e.hashInfo = some h → h.name = some kMd5)
    (hfiles : ∀ k, oidAt w k = fileOid T k) (hdirs : DirInv T w) (htd : TDirs T w) :
    (acts w T).filesCreate = [] ∧ (acts w T).filesDelete = [] ∧ (acts w T).dirsCreate = [] ∧
      (acts w T).dirsDelete = [] := by
  have hinv := acts_inv2 cache w T ht
  have hdc : DcInv _ (acts w T) := compare_dcInv _ _ (fun k e h => oldMeta w k e h)
    fun k e h => by rw [entryOf_target cache T ht] at h; exact ht.hasMeta k e h
  -- a file of the workspace and the target's file entry at the same key carry the same hash
  have same : ∀ k oid ex e, w.lookup k = some (.file oid ex) → T.lookup k = some e → isDirE e = false →
      (nodeEntry (.file oid ex)).hashInfo = e.hashInfo := by
    intro k oid ex e hk he hf
    -- the entry's hash, taken apart into its name `n` and its value `v`
    obtain ⟨⟨n, v⟩, _, hh, _⟩ := ht.cached k e he hf
    have h1 : some oid = v := by
      have := hfiles k
      simpa only [oidAt, fileOid, hk, he, hf, Bool.false_eq_true, if_false, hh, Option.bind_some] using this
    have hn : n = some kMd5 := hname k e _ he hf hh
    rw [hh, ← h1, hn]
    rfl  -- `nodeEntry (.file oid ex)` records the hash `{ name := some kMd5, value := some oid }`
  refine ⟨?_, ?_, ?_, ?_⟩ <;> refine List.eq_nil_iff_forall_not_mem.mpr fun p hp => ?_
  · -- to create: the target's file is there, with the same hash
    obtain ⟨hne, hd⟩ := fc_target cache w T ht p hp
    obtain ⟨oid, ex, hk⟩ := file_of_oidAt ht hne hd (hfiles p.1)
    rcases (hinv.fcreate p hp).2.2 _ (by rw [entryOf_ws, hk]; rfl) with h1 | h1
    · exact h1 (same p.1 oid ex p.2 hk hne hd)
    · rw [hd] at h1; exact h1 rfl
  · -- to delete: a file of the workspace is a file of the target, with the same hash
    obtain ⟨oid, ex, hl, hn⟩ := fd_ws cache w T ht p hp
    have hne : fileOid T p.1 ≠ none := by rw [← hfiles p.1]; simp [oidAt, hl]
    obtain ⟨e, he, hf⟩ : TFile T p.1 := Classical.byContradiction fun hnot => hne (fileOid_none_of_not_file T p.1 hnot)
    rcases (hinv.fdelete p hp).2.2 e (by rw [entryOf_target cache T ht, he]) with h1 | h1
    · rw [hn] at h1; exact h1 (same p.1 oid ex e hl he hf)
    · rw [hn, hf] at h1; exact h1 rfl
  · -- a directory to create is there already
    obtain ⟨hne, hd⟩ := dc_target cache w T ht p hp
    cases hdc p hp _ (by rw [entryOf_ws, htd p.1 p.2 hne hd]; rfl)
  · -- a directory to delete sits where the target has a node
    exact dd_not_tAbove ht p hp (hdirs p.1 (dd_ws ht p hp))

/-- **C09: a second compare finds nothing left to create or delete.**  For every workspace, every well-formed target whose
    file objects are cached and whose file hashes carry the name `md5` (the name `md5(build(ws))` records): after the
    apply, comparing the resulting workspace with the target again schedules no file and no directory for creation or
    deletion. -/
theorem second_compare_nothing_left
    (hname : ∀ k e h, T.lookup k = some e → isDirE e = false → e.hashInfo = some h → h.name = some kMd5) :
    ∃ ws', apply cache (compare true (some (indexOfWs ws)) (some T)) ws = .ok ws' [] ∧
      (compare true (some (indexOfWs ws')) (some T)).filesCreate = [] ∧
      (compare true (some (indexOfWs ws')) (some T)).filesDelete = [] ∧
      (compare true (some (indexOfWs ws')) (some T)).dirsCreate = [] ∧
      (compare true (some (indexOfWs ws')) (some T)).dirsDelete = [] := by
  obtain ⟨ws', happ, hfiles, hdirs, htd⟩ := apply_compare_final cache ws T hw ht
  exact ⟨ws', happ, compare_settled ht ws' hname hfiles hdirs htd⟩

end final

/-- the hypotheses are met by the example of `C09b` (a stale file, a file replaced by a directory, a nested directory to be
    removed): its target's file hashes carry the name `md5` -/
example : ∃ ws', apply [['9'], ['2']] (compare true (some (indexOfWs exWs)) (some exT)) exWs = .ok ws' [] ∧
    (compare true (some (indexOfWs ws')) (some exT)).filesCreate = [] ∧
    (compare true (some (indexOfWs ws')) (some exT)).filesDelete = [] ∧
    (compare true (some (indexOfWs ws')) (some exT)).dirsCreate = [] ∧
    (compare true (some (indexOfWs ws')) (some exT)).dirsDelete = [] :=
  second_compare_nothing_left _ exWs exT exWs_ok exT_ok (by
    intro k e h hl _ hh
    have hm := AList.mem_of_lookup hl
    simp only [exT, List.mem_cons, Prod.mk.injEq, List.mem_nil_iff, or_false] at hm
    rcases hm with ⟨_, rfl⟩ | ⟨_, rfl⟩ <;> (simp only [Option.some.injEq] at hh; subst hh; rfl))

end DvcData.IndexCheckout

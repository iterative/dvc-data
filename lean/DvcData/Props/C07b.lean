import DvcData.Model.StoreAdd
import DvcData.Props.C07
/-!
  C07, "a store configured to verify never retains a mismatching object after an add".

  `effVerify`: how one `add` call resolves the verification wish (an explicit `None` - what `transfer()` forwards and
  `fetch` passes - means the store's own setting).  `verifying_add_rejects_mismatch`: when the effective flag is on, a
  copy whose bytes do not match the name is not in the store afterwards and the add reports the corruption;
  `verifying_add_keeps_intact`: a matching copy is kept (and is read-only in a local store).
-/
namespace DvcData.Store
open DvcData State

theorem effVerify_none (sv : Bool) : effVerify sv none = sv := rfl
theorem effVerify_some (sv b : Bool) : effVerify sv (some b) = b := rfl

/-- a verifying store verifies unless the caller says `False` in so many words -/
theorem effVerify_verifying_store (arg : Option Bool) (h : arg ≠ some false) : effVerify true arg = true := by
  cases arg with
  | none => rfl
  | some b => cases b with
    | true => rfl
    | false => exact absurd rfl h

/-- A verifying add of an object the store does not hold: the pre-check finds nothing, the copy goes in unprotected
    under its stamp, and the add is the check of the store so obtained - for which the cache is still coherent,
    the stamp never having stood for other bytes (the C13 freshness assumption). -/
theorem add_new_verifying {H : Algo → Bytes → Digest} (localClass : Bool) (name : Algo)
    {storeVerify : Bool} {arg : Option Bool} {db : Db} {st : Store} {used : Used}
    (hc : Coherent H db (fsOf st) used) (hv : effVerify storeVerify arg = true)
    {oid : Oid} {data : Bytes} {s : Stamp} (hnew : st.lookup oid = none)
    (hfresh : ∀ b', (oid, s, b') ∈ used → b' = data) :
    ∃ st1, add H localClass name storeVerify arg db st oid data s = check H localClass name db st1 oid ∧
      st1.lookup oid = some { data := data, prot := false, stamp := s } ∧
      Coherent H db (fsOf st1) ((oid, s, data) :: used) := by
  refine ⟨st.set oid { data := data, prot := false, stamp := s }, ?_, AList.lookup_set_self .., ?_⟩
  · have hpre : check H localClass name db st oid = (.notFound, st, db) := by simp only [check, hnew]
    simp only [add, addVerify, hv, if_true, hpre, AList.contains_eq_false_iff.mpr hnew,
      Bool.false_eq_true, if_false]
  · rw [fsOf_set]
    exact mutate_coherent H db (fsOf st) used hc oid data s hfresh

/-- **a verifying add never retains a mismatching copy** (the object was not there before; the copy gets a stamp that
    never stood for other bytes - the C13 freshness assumption) -/
theorem verifying_add_rejects_mismatch (H : Algo → Bytes → Digest) (localClass : Bool) (name : Algo)
    (storeVerify : Bool) (arg : Option Bool) (db : Db) (st : Store) (used : Used)
    (hc : Coherent H db (fsOf st) used) (hv : effVerify storeVerify arg = true)
    (oid : Oid) (data : Bytes) (s : Stamp) (hnew : st.lookup oid = none)
    (hfresh : ∀ b', (oid, s, b') ∈ used → b' = data)
    (hbad : strip (H name data) ≠ strip oid) :
    (add H localClass name storeVerify arg db st oid data s).1 = .corrupt ∧
    (add H localClass name storeVerify arg db st oid data s).2.1.lookup oid = none := by
  obtain ⟨st1, hadd, hl1, hc1⟩ := add_new_verifying localClass name hc hv hnew hfresh
  obtain ⟨h1, h2⟩ := check_rejects_corrupt H localClass name db st1 _ hc1 oid _ hl1 (Bool.and_false _) hbad
  rw [hadd, h2]
  exact ⟨h1, AList.lookup_erase_self st1 oid⟩

/-- **an intact copy is kept**, and is read-only afterwards in a local store -/
theorem verifying_add_keeps_intact (H : Algo → Bytes → Digest) (localClass : Bool) (name : Algo)
    (storeVerify : Bool) (arg : Option Bool) (db : Db) (st : Store) (used : Used)
    (hc : Coherent H db (fsOf st) used) (hv : effVerify storeVerify arg = true)
    (oid : Oid) (data : Bytes) (s : Stamp) (hnew : st.lookup oid = none)
    (hfresh : ∀ b', (oid, s, b') ∈ used → b' = data)
    (hgood : strip (H name data) = strip oid) :
    (add H localClass name storeVerify arg db st oid data s).1 = .ok ∧
    (add H localClass name storeVerify arg db st oid data s).2.1.lookup oid =
      some { data := data, prot := localClass, stamp := s } := by
  obtain ⟨st1, hadd, hl1, hc1⟩ := add_new_verifying localClass name hc hv hnew hfresh
  obtain ⟨h1, h2⟩ := check_accepts_intact H localClass name db st1 _ hc1 oid _ hl1 hgood
  rw [hadd, h2]
  exact ⟨h1, by rw [Bool.false_or]⟩

/-- without verification (an explicit `False`, or a store that does not verify and no wish) the copy is filed as it is -/
example (H : Algo → Bytes → Digest) (localClass : Bool) (name : Algo) (db : Db) (st : Store) (oid : Oid) (data : Bytes) (s : Stamp)
    (hnew : st.lookup oid = none) :
    (add H localClass name true (some false) db st oid data s).2.1.lookup oid = some { data := data, prot := localClass, stamp := s } := by
  simp [add, effVerify, AList.contains_eq_false_iff.mpr hnew, addOne, AList.lookup_set]

end DvcData.Store

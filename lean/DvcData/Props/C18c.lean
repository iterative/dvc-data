import DvcData.Model.StorageMap
import DvcData.Proofs.AList
import DvcData.Props.C18
/-
  C18 (storage mappings): after any sequence of `add_*` calls the storage a key resolves to for a role is the one
  *declared* at the longest prefix of the key that declares that role - so resolution does not depend on the order of
  the calls (F29).
-/
namespace DvcData.PushFetch
open DvcData Path

theorem get_set (s : SInfo) (r r' : Role) (x : StoreId) :
    (s.set r x).get r' = if r = r' then some x else s.get r' := by
  cases r <;> cases r' <;> simp [SInfo.set, SInfo.get]

theorem wf_build (ds : List Decl) : AList.WF (build ds) :=
  List.foldlRecOn ds addDecl AList.wf_nil fun m hm _ _ => AList.wf_set m _ _ hm

/-- no two declarations for the same prefix and role (a later one would replace the earlier) -/
def Uniq (ds : List Decl) : Prop := (ds.map fun d => (d.pfx, d.role)).Nodup

/-- what the own entry of a prefix says for a role after the calls -/
def own (m : SMap) (p : Key) (r : Role) : Option StoreId := (AList.lookup m p).bind (·.get r)

theorem own_addDecl (m : SMap) (d : Decl) (p : Key) (r : Role) :
    own (addDecl m d) p r = if d.pfx = p ∧ d.role = r then some d.store else own m p r := by
  unfold own addDecl
  rw [AList.lookup_set]
  by_cases hp : d.pfx = p
  · subst hp
    simp only [if_true, Option.bind_some, get_set, true_and]
    -- a prefix without an entry starts from the empty one, which defines no role
    cases AList.lookup m d.pfx with
    | some _ => rfl
    | none => cases r <;> rfl
  · simp only [hp, if_false, false_and]

/-- `build` read from the last call backwards (`foldl` is `foldr` over the reverse): the head of the list is the last
    call, and what it declares for its prefix and role stands -/
theorem own_foldr (p : Key) (r : Role) (s : StoreId) : ∀ (l : List Decl), Uniq l →
    (own (l.foldr (fun d m => addDecl m d) []) p r = some s ↔ ∃ d ∈ l, d.pfx = p ∧ d.role = r ∧ d.store = s)
  | [], _ => by simp [own]
  | d :: l, hu => by
    obtain ⟨hd, hu'⟩ := List.nodup_cons.mp hu
    rw [List.foldr_cons, own_addDecl]
    simp only [List.mem_cons, exists_eq_or_imp]
    -- by `Uniq` no earlier call speaks of the prefix and role of `d`
    by_cases h : d.pfx = p ∧ d.role = r
    · have hnot : ¬ ∃ d' ∈ l, d'.pfx = p ∧ d'.role = r ∧ d'.store = s := fun ⟨d', hd', h1, h2, _⟩ =>
        hd (List.mem_map.mpr ⟨d', hd', by simp only [h1, h2, h.1, h.2]⟩)
      simp only [h, and_self, if_true, Option.some.injEq, true_and, hnot, or_false]
    · have hnot : ¬ (d.pfx = p ∧ d.role = r ∧ d.store = s) := fun h' => h ⟨h'.1, h'.2.1⟩
      simp only [h, if_false, own_foldr p r s l hu', hnot, false_or]

/-- **the own entries are exactly the declarations** -/
theorem own_build (ds : List Decl) (hu : Uniq ds) (p : Key) (r : Role) (s : StoreId) :
    own (build ds) p r = some s ↔ ∃ d ∈ ds, d.pfx = p ∧ d.role = r ∧ d.store = s := by
  have hu' : Uniq ds.reverse := ((List.reverse_perm ds).map _).nodup_iff.mpr hu
  rw [build, List.foldl_eq_foldr_reverse, own_foldr p r s ds.reverse hu']
  simp only [List.mem_reverse]

/-- the declarative reading of "longest prefix, independently per role" -/
def Designates (ds : List Decl) (k : Key) (r : Role) (s : StoreId) : Prop :=
  ∃ d ∈ ds, d.role = r ∧ d.store = s ∧ d.pfx.isPrefixOf k = true ∧
    ∀ d' ∈ ds, d'.role = r → d'.pfx.isPrefixOf k = true → d'.pfx.length ≤ d.pfx.length

theorem designates_functional {ds : List Decl} (hu : Uniq ds) {k : Key} {r : Role} {s s' : StoreId}
    (h : Designates ds k r s) (h' : Designates ds k r s') : s = s' := by
  obtain ⟨d, hd, hr, hs, hp, hmax⟩ := h
  obtain ⟨d', hd', hr', hs', hp', hmax'⟩ := h'
  -- two prefixes of `k` of the same length are equal, and a prefix declares a role once
  have hl : d.pfx.length = d'.pfx.length := Nat.le_antisymm (hmax' d hd hr hp) (hmax d' hd' hr' hp')
  rw [List.isPrefixOf_iff_prefix] at hp hp'
  have hpe : d.pfx = d'.pfx := (List.prefix_of_prefix_length_le hp hp' (Nat.le_of_eq hl)).eq_of_length hl
  have : d = d' := inj_on_of_nodup_map hu hd hd' (by rw [hpe, hr, hr'])
  rw [← hs, ← hs', this]

theorem build_entry {ds : List Decl} (hu : Uniq ds) {d : Decl} (hd : d ∈ ds) :
    ∃ qi, (d.pfx, qi) ∈ build ds ∧ qi.get d.role = some d.store := by
  obtain ⟨qi, hl, hg⟩ := Option.bind_eq_some_iff.mp ((own_build ds hu _ _ _).mpr ⟨d, hd, rfl, rfl, rfl⟩)
  exact ⟨qi, AList.mem_of_lookup hl, hg⟩

theorem resolveRole_sound {ds : List Decl} (hu : Uniq ds) {k : Key} {r : Role} {s : StoreId}
    (h : resolveRole (build ds) k r = some s) : Designates ds k r s := by
  obtain ⟨p, info, hm, hp, hg, hmax⟩ := resolve_longest_prefix_per_role (build ds) k r s h
  have hown : own (build ds) p r = some s := by
    unfold own; rw [AList.lookup_of_mem (wf_build ds) hm]; exact hg
  obtain ⟨d, hd, rfl, rfl, rfl⟩ := (own_build ds hu p r s).mp hown
  refine ⟨d, hd, rfl, rfl, hp, fun d' hd' hr' hp' => ?_⟩
  obtain ⟨qi, hm', hg'⟩ := build_entry hu hd'
  exact hmax d'.pfx qi hm' hp' (by rw [← hr', hg']; rfl)

/-- **resolution after any sequence of `add_*` calls is the declared longest prefix per role** -/
theorem resolveRole_build (ds : List Decl) (hu : Uniq ds) (k : Key) (r : Role) (s : StoreId) :
    resolveRole (build ds) k r = some s ↔ Designates ds k r s := by
  refine ⟨resolveRole_sound hu, fun h => ?_⟩
  obtain ⟨d, hd, rfl, rfl, hp, _⟩ := id h   -- `id`: `h` itself is needed again below
  -- something is returned: the entry of d's prefix matches and defines the role
  obtain ⟨qi, hm, hg⟩ := build_entry hu hd
  cases hres : resolveRole (build ds) k d.role with
  | none =>
    unfold resolveRole at hres
    rw [List.head?_eq_none_iff, List.filterMap_eq_nil_iff] at hres
    have := hres (d.pfx, qi) (mem_matching.mpr ⟨hm, hp⟩)
    rw [hg] at this; cases this
  | some s' => rw [designates_functional hu h (resolveRole_sound hu hres)]

/-- **F29 as a theorem: the order of the `add_*` calls does not matter** -/
theorem resolveRole_order_independent (ds ds' : List Decl) (hp : ds.Perm ds') (hu : Uniq ds) (k : Key) (r : Role) :
    resolveRole (build ds) k r = resolveRole (build ds') k r := by
  have hu' : Uniq ds' := (hp.map _).nodup_iff.mp hu
  refine Option.ext fun s => ?_
  -- `Designates` speaks of the declarations as a set
  simp only [resolveRole_build ds hu, resolveRole_build ds' hu', Designates, hp.mem_iff]

/-! non-vacuity: the call order that exposed F29 -/
private def dRoot : Decl := ⟨[], .cache, "K1"⟩
private def dInner : Decl := ⟨["c".toList, "tree".toList, "s".toList], .remote, "R1"⟩
private def dC : Decl := ⟨["c".toList], .cache, "K2"⟩
private def probe : Key := ["c".toList, "tree".toList, "s".toList, "g0".toList]

example : own (build [dRoot, dInner, dC]) dInner.pfx .cache = none := by decide
example : Designates [dRoot, dInner, dC] probe .cache "K2" :=
  ⟨dC, by simp, rfl, rfl, by decide, by
    intro d' hd' hr _
    simp only [List.mem_cons, List.mem_nil_iff, or_false] at hd'
    rcases hd' with rfl | rfl | rfl <;> simp_all [dRoot, dInner, dC]⟩

end DvcData.PushFetch

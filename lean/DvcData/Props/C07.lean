import DvcData.Model.Store
import DvcData.Props.C13
/-!
# C07 — corrupted objects are detected and dropped, never served; intact ones unharmed
-/
namespace DvcData.Store
open DvcData State AList

theorem fsOf_lookup (st : Store) (oid : Oid) :
    (fsOf st).lookup oid = (st.lookup oid).map fun o => { bytes := o.data, stamp := o.stamp } :=
  lookup_map (fun (_ : Oid) (o : Obj) => ({ bytes := o.data, stamp := o.stamp } : Node)) st oid

theorem fsOf_erase (st : Store) (oid : Oid) : fsOf (st.erase oid) = State.delete (fsOf st) oid := by
  simp only [fsOf, AList.erase, State.delete, List.filter_map]
  -- left: `map f (filter p st)`; right: `map f (filter (p ∘ f) st)`, with `p` the test "key ≠ oid" and `f` the map of `fsOf`:
  -- `f` keeps the key, so `p ∘ f` reduces to `p`
  rfl

theorem fsOf_set (st : Store) (oid : Oid) (o : Obj) :
    fsOf (st.set oid o) = (fsOf st).set oid { bytes := o.data, stamp := o.stamp } := by
  induction st with
  | nil => rfl
  | cons p r ih =>
    obtain ⟨k, o'⟩ := p
    simp only [fsOf, AList.set, List.map_cons] at ih ⊢
    by_cases h : k = oid
    · simp [h]
    · simp [h]; exact ih

/-- hashing an object through the cache gives the hash of its bytes (C13) -/
theorem hashFile_obj (H : Algo → Bytes → Digest) (db : Db) (st : Store) (used : Used)
    (hc : Coherent H db (fsOf st) used) (oid : Oid) (o : Obj) (ho : st.lookup oid = some o) (name : Algo) :
    ∃ db', hashFile H db (fsOf st) true oid name = some (H name o.data, db') ∧ Coherent H db' (fsOf st) used :=
  hashFile_spec hc true oid name ⟨o.data, o.stamp⟩ (by rw [fsOf_lookup, ho]; rfl)

theorem check_of_hash {H : Algo → Bytes → Digest} {localClass : Bool} {name : Algo} {db db' : Db} {st : Store}
    {oid : Oid} {o : Obj} {v : Digest} (ho : st.lookup oid = some o) (hp : (localClass && o.prot) = false)
    (hh : hashFile H db (fsOf st) true oid name = some (v, db')) :
    check H localClass name db st oid =
      if strip v ≠ strip oid then (.corrupt, st.erase oid, db')
      else (.ok, if localClass then st.set oid { o with prot := true } else st, db') := by
  simp only [check, ho, hp, hh, Bool.false_eq_true, if_false]

/-- **a mismatching, unprotected object is rejected and deleted** — whatever the cache holds, as
    long as it is coherent (an entry from before the tampering carries the old stamp and cannot hit) -/
theorem check_rejects_corrupt (H : Algo → Bytes → Digest) (localClass : Bool) (name : Algo) (db : Db)
    (st : Store) (used : Used) (hc : Coherent H db (fsOf st) used) (oid : Oid) (o : Obj)
    (ho : st.lookup oid = some o) (hp : (localClass && o.prot) = false)
    (hbad : strip (H name o.data) ≠ strip oid) :
    (check H localClass name db st oid).1 = .corrupt ∧ (check H localClass name db st oid).2.1 = st.erase oid := by
  obtain ⟨db', hh, _⟩ := hashFile_obj H db st used hc oid o ho name
  rw [check_of_hash ho hp hh, if_pos hbad]
  exact ⟨rfl, rfl⟩

/-- **an intact object is accepted, never deleted, and a local object is read-only afterwards** -/
theorem check_accepts_intact (H : Algo → Bytes → Digest) (localClass : Bool) (name : Algo) (db : Db)
    (st : Store) (used : Used) (hc : Coherent H db (fsOf st) used) (oid : Oid) (o : Obj)
    (ho : st.lookup oid = some o) (hgood : strip (H name o.data) = strip oid) :
    (check H localClass name db st oid).1 = .ok ∧
    (check H localClass name db st oid).2.1.lookup oid = some { o with prot := o.prot || localClass } := by
  cases hp : localClass && o.prot with
  | true =>
    -- trusted for its mode: nothing is done, and the object is protected already
    simp only [Bool.and_eq_true] at hp
    simp only [check, ho, hp.1, hp.2, Bool.and_self, if_true, Bool.or_self]
    -- `o.prot = true`, so the record with `prot := true` is `o` itself
    exact ⟨trivial, by rw [← hp.2]⟩
  | false =>
    obtain ⟨db', hh, _⟩ := hashFile_obj H db st used hc oid o ho name
    rw [check_of_hash ho hp hh, if_neg (fun h => h hgood)]
    refine ⟨rfl, ?_⟩
    cases localClass with
    | false => simp only [Bool.false_eq_true, if_false, ho, Bool.or_false]
    | true => simp only [if_true, lookup_set, Bool.or_true]

/-- a check never touches another object -/
theorem check_other (H : Algo → Bytes → Digest) (localClass : Bool) (name : Algo) (db : Db) (st : Store)
    (oid other : Oid) (hne : oid ≠ other) :
    (check H localClass name db st oid).2.1.lookup other = st.lookup other := by
  -- the store comes back as it was, without `oid`, or with `oid` protected
  fun_cases check H localClass name db st oid
  · rfl
  · rfl
  · rfl
  · exact lookup_erase_ne hne
  · cases localClass with
    | false => rfl
    | true => exact lookup_set_ne hne

/-- **after a check, an object that is still there and is not a (trusted) protected local object
    matches its name** -/
theorem check_leaves_valid (H : Algo → Bytes → Digest) (localClass : Bool) (name : Algo) (db : Db)
    (st : Store) (used : Used) (hc : Coherent H db (fsOf st) used) (oid : Oid) (o o' : Obj)
    (ho : st.lookup oid = some o) (hp : (localClass && o.prot) = false)
    (h' : (check H localClass name db st oid).2.1.lookup oid = some o') :
    strip (H name o'.data) = strip oid := by
  by_cases hgood : strip (H name o.data) = strip oid
  · have := (check_accepts_intact H localClass name db st used hc oid o ho hgood).2
    rw [this] at h'; cases h'; exact hgood
  · have := (check_rejects_corrupt H localClass name db st used hc oid o ho hp hgood).2
    rw [this, lookup_erase_self] at h'; cases h'

/-! ### adds that fail leave what is there alone -/

/-- **a failed add changes nothing about its object**: in any batch, an object all of whose copies fail keeps exactly
    the file and the hash-state row it had - the add neither protects it nor vouches for it (what the unrepaired
    code did for every oid of the batch, F21) -/
theorem failed_add_untouched (localClass : Bool) (name : Algo) (db : Db) (st : Store)
    (xs : List (Oid × Option (Bytes × Stamp))) (oid : Oid) (h : ∀ x ∈ xs, x.1 = oid → x.2 = none) :
    (addBatch localClass name db st xs).2.1.lookup oid = st.lookup oid ∧
    (addBatch localClass name db st xs).2.2.lookup oid = db.lookup oid := by
  refine List.foldlRecOn xs _
    (motive := fun (acc : List Oid × Store × Db) =>
      acc.2.1.lookup oid = st.lookup oid ∧ acc.2.2.lookup oid = db.lookup oid)
    ⟨rfl, rfl⟩ fun acc hacc x hx => ?_
  -- one step: a failed copy changes neither store nor state, any other is filed and recorded under another name
  unfold addOne
  cases hsrc : x.2 with
  | none => exact hacc
  | some ds =>
    have hne : x.1 ≠ oid := fun e => by rw [h x hx e] at hsrc; cases hsrc
    exact ⟨(lookup_set_ne hne).trans hacc.1, (lookup_save_ne hne).trans hacc.2⟩

/-- the verdict alone, through the digest alone: the form in which `hashFile_fst_congr` applies to it -/
theorem check_fst (H : Algo → Bytes → Digest) (localClass : Bool) (name : Algo) (db : Db) (st : Store) (oid : Oid) :
    (check H localClass name db st oid).1 = match st.lookup oid with
      | none => .notFound
      | some o => if localClass && o.prot then .ok else
        match (hashFile H db (fsOf st) true oid name).map (·.1) with
        | none => .notFound
        | some v => if strip v ≠ strip oid then .corrupt else .ok := by
  fun_cases check H localClass name db st oid
  -- the branches of `check`: no object; trusted for its mode; unreadable; mismatch; match
  · next h => rw [h]
  · next o ho hp => rw [ho]; exact (if_pos hp).symm
  · next o ho hp hh => rw [ho, hh]; exact (if_neg hp).symm
  · next o ho hp v db' hh hv => rw [ho, hh]; exact ((if_neg hp).trans (if_pos hv)).symm
  · next o ho hp v db' hh hv => rw [ho, hh]; exact ((if_neg hp).trans (if_neg hv)).symm

/-- the verdict of an integrity check depends only on the object's own file and hash-state row -/
theorem check_verdict_congr (H : Algo → Bytes → Digest) (localClass : Bool) (name : Algo) (db db' : Db) (st st' : Store)
    (oid : Oid) (hs : st'.lookup oid = st.lookup oid) (hd : db'.lookup oid = db.lookup oid) :
    (check H localClass name db' st' oid).1 = (check H localClass name db st oid).1 := by
  rw [check_fst, check_fst, hs,
    hashFile_fst_congr H db db' (fsOf st) (fsOf st') true oid name (by rw [fsOf_lookup, fsOf_lookup, hs]) hd]

/-- **C07 (failed adds).** Whatever else a batch adds, an object all of whose copies failed gets the same verdict from the
    integrity check afterwards as before: a tampered, unprotected object is not turned into a valid one by a failing add. -/
theorem failed_add_same_verdict (H : Algo → Bytes → Digest) (localClass : Bool) (name : Algo) (db : Db) (st : Store)
    (xs : List (Oid × Option (Bytes × Stamp))) (oid : Oid) (h : ∀ x ∈ xs, x.1 = oid → x.2 = none) :
    (check H localClass name (addBatch localClass name db st xs).2.2 (addBatch localClass name db st xs).2.1 oid).1 =
      (check H localClass name db st oid).1 := by
  obtain ⟨h1, h2⟩ := failed_add_untouched localClass name db st xs oid h
  exact check_verdict_congr H localClass name db _ st _ oid h1 h2

/-! non-vacuity -/
example : (addBatch true "md5" [] [("x", { data := [1], prot := false, stamp := ⟨1, 1, 1⟩ })]
    [("x", none), ("y", some ([2], ⟨2, 2, 1⟩))]).1 = ["x"] := by decide
example : strip "abc.dir" = "abc" ∧ strip "abc" = "abc" := by decide

end DvcData.Store

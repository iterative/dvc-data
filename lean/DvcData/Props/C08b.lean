import DvcData.Model.IndexSave
import DvcData.Props.C03
import DvcData.Props.C08
/-!
  C08 (last clause) / C01: "skipping unchanged hashed sub-trees never hides a change".

  `index/save.py` gives every directory entry the identifier of the listing of the files below it
  (`saveDirs_merkle`); for two indexes whose directory identifiers are derived that way (`Merkle`),
  the shortcut of `_diff` (`skipOf`: hash-only, unchanged directory identifier) hides nothing: at every
  key below the skipped node at which either side holds a file, both sides hold a file and the two hashes
  are classified `unchanged` (`skip_sound`).  The hypotheses are the ones C03 proves of the listing:
  a listing is determined by its bytes (`asBytes_injective`), and `H` does not collide on the two
  listings compared.
-/
namespace DvcData.IndexSave
open DvcData Path MetaInfo IndexDiff Tree List Json

/-- the parts of index keys do not contain the separator (they survive `"/".join`) -/
def KeysOK (idx : Index) : Prop := ∀ e ∈ idx, ∀ p ∈ e.1, sep ∉ p

/-- directory identifiers are derived from the file entries below them -/
structure Merkle (H : List Char → Str) (idx : Index) : Prop where
  /-- an entry whose hash is a directory identifier carries the identifier of the listing below it -/
  digest : ∀ k e h, idx.lookup k = some e → e.hashInfo = some h → h.isdir = true →
    h.value = some (Tree.digest H (treeBelow idx k))
  /-- ... under a proper algorithm name (`relpath` is the listing's own key in every entry: C03's `HashNameOK`) -/
  named : ∀ k e h, idx.lookup k = some e → e.hashInfo = some h → h.isdir = true →
    ∃ n, h.name = some n ∧ n ≠ [] ∧ n ≠ relpathKey
  /-- ... which the hashed files below it share (as after `Tree.from_list(.., hash_name)` or `md5()`) -/
  uniform : ∀ k e h, idx.lookup k = some e → e.hashInfo = some h → h.isdir = true →
    ∀ r e' h', idx.lookup (k ++ r) = some e' → isDirEntry e' = false → e'.hashInfo = some h' →
      h'.truthy = true → h'.name = h.name

/-! ### membership in `treeBelow` -/

theorem mem_treeBelow (idx : Index) (k r : Key) (v : TVal) :
    (r, v) ∈ treeBelow idx k ↔
      ∃ e, (k ++ r, e) ∈ idx ∧ r ≠ [] ∧ isDirEntry e = false ∧ v = (e.mt, e.hashInfo) := by
  unfold treeBelow
  rw [mem_filterMap]
  constructor
  · rintro ⟨⟨k', e⟩, hm, h⟩
    cases hs : stripPrefix k k' with
    | none => rw [hs] at h; cases h
    | some s =>
      rw [hs] at h
      cases s with
      | nil => cases h
      | cons p rest =>
        dsimp only at h
        cases hd : isDirEntry e with
        | true => rw [hd] at h; cases h
        | false =>
          rw [hd] at h
          cases h
          rw [stripPrefix_eq_some.mp hs] at hm
          exact ⟨e, hm, cons_ne_nil _ _, hd, rfl⟩
  · rintro ⟨e, hm, hne, hd, rfl⟩
    obtain ⟨p, rest, rfl⟩ := exists_cons_of_ne_nil hne
    exact ⟨_, hm, by simp [stripPrefix_eq_some.mpr rfl, hd]⟩

/-! ### hashes with one algorithm name are told apart by the listing -/

theorem hiToDict_named (a : Option HashInfo) (n : Str) (hn : n ≠ [])
    (ha : ∀ x, a = some x → x.truthy = true → x.name = some n) :
    (hiTruthy a = false ∧ hiToDict a = []) ∨
    ∃ v, a = some { name := some n, value := some v } ∧ hiTruthy a = true ∧
      hiToDict a = [((if n = dos2unixName then md5Name else n), JVal.str v)] := by
  cases a with
  | none => exact Or.inl ⟨rfl, rfl⟩
  | some x =>
    cases ht : x.truthy with
    | false => exact Or.inl ⟨ht, by simp [hiToDict, ht]⟩
    | true =>
      obtain ⟨name, value⟩ := x
      have hx : name = some n := ha _ rfl ht
      subst hx
      cases value with
      | none => cases ht
      | some v =>
        refine Or.inr ⟨v, rfl, ht, ?_⟩
        have hv : v.isEmpty = false := by simpa [HashInfo.truthy] using ht
        have hne : n.isEmpty = false := List.isEmpty_eq_false_iff.mpr hn
        unfold hiToDict
        simp only [ht, Bool.not_true, Bool.false_eq_true, if_false, Option.some.injEq]
        by_cases hd : n = dos2unixName
        · simp [hd]
        · simp [hd, HashInfo.toDict, hv, hne]

/-- two hashes that may only carry the name `n` and serialise alike are classified `unchanged` -/
theorem diffHashInfo_of_dict (a b : Option HashInfo) (n : Str) (hn : n ≠ [])
    (ha : ∀ x, a = some x → x.truthy = true → x.name = some n)
    (hb : ∀ x, b = some x → x.truthy = true → x.name = some n)
    (hd : hiToDict a = hiToDict b) : diffHashInfo a b = .unchanged := by
  rw [diffHashInfo_unchanged_iff]
  rcases hiToDict_named a n hn ha with ⟨hta, hda⟩ | ⟨v, rfl, hta, hda⟩
  · rcases hiToDict_named b n hn hb with ⟨htb, _⟩ | ⟨w, _, _, hdb⟩
    · exact ⟨hta.trans htb.symm, fun h => by rw [hta] at h; cases h⟩
    · rw [hda, hdb] at hd; cases hd
  · rcases hiToDict_named b n hn hb with ⟨_, hdb⟩ | ⟨w, rfl, htb, hdb⟩
    · rw [hda, hdb] at hd; cases hd
    · rw [hda, hdb] at hd
      have : v = w := by simpa using hd
      exact ⟨hta.trans htb.symm, fun _ => by rw [this]⟩

/-! ### the listing of a Merkle index is determined by the identifier -/

theorem isdir_truthy {h : HashInfo} (hd : h.isdir = true) : h.truthy = true := by
  unfold HashInfo.isdir at hd
  unfold HashInfo.truthy
  cases hv : h.value with
  | none => simp [hv] at hd
  | some v => simp only [hv, Bool.and_eq_true] at hd ⊢; exact hd.1

theorem keyOK_rel {idx : Index} (hk : KeysOK idx) {k r : Key} {e : Entry} (hm : (k ++ r, e) ∈ idx) (hne : r ≠ []) :
    KeyOK r :=
  ⟨hne, fun p hp => hk _ hm p (by simp [hp])⟩

/-- every entry of the listing below a directory identifier has a serialisable hash name -/
theorem hashNameOK_below {H : List Char → Str} {idx : Index} (hwf : AList.WF idx) (hm : Merkle H idx)
    {k : Key} {e : Entry} {h : HashInfo} (hl : idx.lookup k = some e) (hh : e.hashInfo = some h)
    (hd : h.isdir = true) : ∀ x ∈ treeBelow idx k, HashNameOK x.2.2 := by
  rintro ⟨r, v⟩ hx n' v' hdict
  obtain ⟨e', hm', _, hde, rfl⟩ := (mem_treeBelow idx k r v).mp hx
  obtain ⟨n, hn, hne, hnr⟩ := hm.named k e h hl hh hd
  have hname : ∀ y, e'.hashInfo = some y → y.truthy = true → y.name = some n := fun y hy hty =>
    (hm.uniform k e h hl hh hd r e' y (AList.lookup_of_mem hwf hm') hde hy hty).trans hn
  rcases hiToDict_named e'.hashInfo n hne hname with ⟨_, h0⟩ | ⟨w, _, _, h1⟩
  · rw [h0] at hdict; cases hdict
  · rw [h1] at hdict
    cases hdict
    -- `n'` is now the key under which the hash is listed, `if n = dos2unixName then md5Name else n`: `md5` for the legacy
    -- `md5-dos2unix`, else the algorithm name itself
    split
    · show md5Name ≠ relpathKey
      decide
    · exact hnr

/-- one direction of the comparison: a file on side `A` below `k` has a twin on side `B` -/
theorem twin_of_pairs {A B : Index} (hwb : AList.WF B) (hka : KeysOK A) (hkb : KeysOK B) {k r : Key} {ea : Entry}
    (hp : pairs (treeBelow A k) ~ pairs (treeBelow B k))
    (hma : (k ++ r, ea) ∈ A) (hne : r ≠ []) (hda : isDirEntry ea = false) :
    ∃ eb, B.lookup (k ++ r) = some eb ∧ isDirEntry eb = false ∧ hiToDict ea.hashInfo = hiToDict eb.hashInfo := by
  have h1 : (joinC r, hiToDict ea.hashInfo) ∈ pairs (treeBelow A k) := by
    unfold pairs
    exact mem_map.mpr ⟨(r, (ea.mt, ea.hashInfo)), (mem_treeBelow A k r _).mpr ⟨ea, hma, hne, hda, rfl⟩, rfl⟩
  have h2 := hp.mem_iff.mp h1
  unfold pairs at h2
  obtain ⟨⟨r', v'⟩, hm', heq⟩ := mem_map.mp h2
  obtain ⟨eb, hmb, hne', hdb, rfl⟩ := (mem_treeBelow B k r' v').mp hm'
  simp only [Prod.mk.injEq] at heq
  have hr : r' = r := joinC_injective r' r (keyOK_rel hkb hmb hne') (keyOK_rel hka hma hne) heq.1
  subst hr
  exact ⟨eb, AList.lookup_of_mem hwb hmb, hdb, heq.2.symm⟩

theorem same_id_of_skip {o : Opts} {old new : Index} {k : Key} (hmeta : o.metaOnly = false)
    (hskip : skipOf o (some old) (some new) k = true) :
    o.hashOnly = true ∧ ∃ eo en h, old.lookup k = some eo ∧ new.lookup k = some en ∧
      eo.hashInfo = some h ∧ en.hashInfo = some h ∧ h.isdir = true := by
  obtain ⟨hho, _, hun, e, h, he, heh, hd⟩ := skipOf_iff.mp hskip
  have hoh : (old.lookup k).bind (·.hashInfo) = some h := by rw [← entryOf_hashInfo, he]; exact heh
  rw [diffEntry_hashOnly o hmeta hho, entryOf_hashInfo, entryOf_hashInfo, diffHashInfo_unchanged_iff, hoh] at hun
  obtain ⟨eo, hlo, hoh⟩ := Option.bind_eq_some_iff.mp hoh
  obtain ⟨en, hln, hnh⟩ := Option.bind_eq_some_iff.mp (hun.2 (isdir_truthy hd)).symm
  exact ⟨hho, eo, en, h, hlo, hln, hoh, hnh, hd⟩

/-- **C08: the unchanged-sub-tree shortcut hides no change.**  When `_diff` skips the branch below `k`
    (hash-only comparison, unchanged entries not requested, the entry at `k` classified unchanged and
    carrying a directory identifier), then at every key strictly below `k` at which either index holds a
    file, *both* hold a file and `_diff_entry` classifies the pair as unchanged - for indexes whose
    directory identifiers are derived from the files below them (`Merkle`, what `save` establishes),
    provided `H` does not collide on the two listings. -/
theorem skip_sound (H : List Char → Str) (o : Opts) (old new : Index) (k : Key)
    (hwo : AList.WF old) (hwn : AList.WF new) (hko : KeysOK old) (hkn : KeysOK new)
    (hmo : Merkle H old) (hmn : Merkle H new) (hmeta : o.metaOnly = false)
    (hH : H (asBytes false (treeBelow old k)) = H (asBytes false (treeBelow new k)) →
      asBytes false (treeBelow old k) = asBytes false (treeBelow new k))
    (hskip : skipOf o (some old) (some new) k = true) :
    ∀ r, r ≠ [] →
      ((∃ e, old.lookup (k ++ r) = some e ∧ isDirEntry e = false) ∨
       (∃ e, new.lookup (k ++ r) = some e ∧ isDirEntry e = false)) →
      ∃ eo en, old.lookup (k ++ r) = some eo ∧ new.lookup (k ++ r) = some en ∧
        isDirEntry eo = false ∧ isDirEntry en = false ∧
        diffEntry o (some eo) (some en) = .unchanged := by
  obtain ⟨hho, eo0, en0, h, hlo, hln, hoh, hnh, hdir⟩ := same_id_of_skip hmeta hskip
  -- both identifiers are digests of the listings below `k`; `H` does not collide on these two, and a listing is
  -- determined by its bytes
  have hp : pairs (treeBelow old k) ~ pairs (treeBelow new k) := by
    have hdig := (hmo.digest k eo0 h hlo hoh hdir).symm.trans (hmn.digest k en0 h hln hnh hdir)
    unfold Tree.digest at hdig
    exact asBytes_injective _ _ (hashNameOK_below hwo hmo hlo hoh hdir) (hashNameOK_below hwn hmn hln hnh hdir)
      (hH (List.append_cancel_right (Option.some.inj hdig)))
  obtain ⟨n, hn, hne, _⟩ := hmo.named k eo0 h hlo hoh hdir
  -- twins are classified by their hashes alone, and those carry the directory's algorithm name
  have verdict : ∀ r (eo en : Entry), old.lookup (k ++ r) = some eo → new.lookup (k ++ r) = some en →
      isDirEntry eo = false → isDirEntry en = false → hiToDict eo.hashInfo = hiToDict en.hashInfo →
      diffEntry o (some eo) (some en) = .unchanged := by
    intro r eo en h1 h2 hd1 hd2 hd
    rw [diffEntry_hashOnly o hmeta hho]
    exact diffHashInfo_of_dict _ _ n hne
      (fun x hx hxt => (hmo.uniform k eo0 h hlo hoh hdir r eo x h1 hd1 hx hxt).trans hn)
      (fun x hx hxt => (hmn.uniform k en0 h hln hnh hdir r en x h2 hd2 hx hxt).trans hn) hd
  intro r hr hex
  rcases hex with ⟨eo, hl, hd⟩ | ⟨en, hl, hd⟩
  · obtain ⟨en, hl2, hd2, hdict⟩ := twin_of_pairs hwn hko hkn hp
      (AList.mem_of_lookup hl) hr hd
    exact ⟨eo, en, hl, hl2, hd, hd2, verdict r eo en hl hl2 hd hd2 hdict⟩
  · obtain ⟨eo, hl2, hd2, hdict⟩ := twin_of_pairs hwo hkn hko hp.symm
      (AList.mem_of_lookup hl) hr hd
    exact ⟨eo, en, hl2, hl, hd2, hd, verdict r eo en hl2 hl hd2 hd hdict.symm⟩

/-! ### `save` establishes `Merkle` -/

def saveEntry (H : List Char → Str) (idx : Index) (k : Key) (e : Entry) : Entry :=
  if isDirEntry e then savedDirEntry H idx k e else e

theorem saveEntry_dir {H : List Char → Str} {idx : Index} {k : Key} {e : Entry} (hd : isDirEntry e = true) :
    saveEntry H idx k e = savedDirEntry H idx k e := if_pos hd

theorem saveEntry_file {H : List Char → Str} {idx : Index} {k : Key} {e : Entry} (hd : isDirEntry e = false) :
    saveEntry H idx k e = e := if_neg (by rw [hd]; exact Bool.false_ne_true)

theorem saveDirs_eq (H : List Char → Str) (idx : Index) :
    saveDirs H idx = idx.map fun e => (e.1, saveEntry H idx e.1 e.2) := by
  unfold saveDirs saveEntry
  apply map_congr_left
  intro e _
  split <;> rfl

theorem lookup_saveDirs (H : List Char → Str) (idx : Index) (k : Key) :
    (saveDirs H idx).lookup k = (idx.lookup k).map (saveEntry H idx k) := by
  rw [saveDirs_eq]; exact AList.lookup_map (saveEntry H idx) idx k

theorem isDirEntry_saveEntry (H : List Char → Str) (idx : Index) (k : Key) (e : Entry) :
    isDirEntry (saveEntry H idx k e) = isDirEntry e := by
  cases hd : isDirEntry e with
  | false => rw [saveEntry_file hd, hd]
  | true => rw [saveEntry_dir hd]; rfl

/-- the listings do not change while the directory entries are being re-written -/
theorem treeBelow_saveDirs (H : List Char → Str) (idx : Index) (k : Key) :
    treeBelow (saveDirs H idx) k = treeBelow idx k := by
  rw [saveDirs_eq]
  unfold treeBelow
  rw [filterMap_map]
  congr 1
  funext e
  simp only [Function.comp, isDirEntry_saveEntry]
  -- only file entries are listed, and `saveEntry` leaves those alone
  cases hd : isDirEntry e.2 with
  | true => rfl
  | false => rw [saveEntry_file hd]

theorem saveEntry_saveDirs (H : List Char → Str) (idx : Index) (k : Key) (e : Entry) :
    saveEntry H (saveDirs H idx) k e = saveEntry H idx k e := by
  unfold saveEntry savedDirEntry
  rw [treeBelow_saveDirs]

theorem saveEntry_idem (H : List Char → Str) (idx : Index) (k : Key) (e : Entry) :
    saveEntry H idx k (saveEntry H idx k e) = saveEntry H idx k e := by
  cases hd : isDirEntry e with
  | false => rw [saveEntry_file hd, saveEntry_file hd]
  | true => rw [saveEntry_dir hd]; exact saveEntry_dir rfl

theorem digest_isdir (H : List Char → Str) (t : Tree.Tree) :
    ({ name := some kMd5, value := some (Tree.digest H t) } : HashInfo).isdir = true := by
  unfold HashInfo.isdir Tree.digest endsWithDir
  simp only [Bool.and_eq_true, Bool.not_eq_true']
  constructor
  · cases h : H (asBytes false t) <;> simp [dirSuffix]
  · exact List.isSuffixOf_iff_suffix.mpr (suffix_append _ _)

/-- **`save` derives every directory identifier from the files below it.**  After the directory loop of
    `save`, an entry carries a directory identifier exactly when it is a directory entry, that identifier is
    the digest of the listing of the files below it (what `add_update_tree` files the listing under - C01), under
    the name `md5`, which the md5-hashed files share. -/
theorem saveDirs_merkle (H : List Char → Str) (idx : Index)
    (hfiles : ∀ k e h, idx.lookup k = some e → isDirEntry e = false → e.hashInfo = some h → h.truthy = true →
      h.name = some kMd5 ∧ h.isdir = false) :
    Merkle H (saveDirs H idx) := by
  -- a directory identifier in the saved index is the one `save` wrote: file entries carry none
  have key : ∀ k e h, (saveDirs H idx).lookup k = some e → e.hashInfo = some h → h.isdir = true →
      h = { name := some kMd5, value := some (Tree.digest H (treeBelow idx k)) } := by
    intro k e h hl hh hd
    rw [lookup_saveDirs, Option.map_eq_some_iff] at hl
    obtain ⟨e0, hl0, rfl⟩ := hl
    cases hde : isDirEntry e0 with
    | true =>
      rw [saveEntry_dir hde] at hh
      exact (Option.some.inj hh).symm
    | false =>
      rw [saveEntry_file hde] at hh
      rw [(hfiles k e0 h hl0 hde hh (isdir_truthy hd)).2] at hd
      cases hd
  refine ⟨?_, ?_, ?_⟩
  · intro k e h hl hh hd
    rw [key k e h hl hh hd, treeBelow_saveDirs]
  · intro k e h hl hh hd
    rw [key k e h hl hh hd]
    exact ⟨kMd5, rfl, by decide, by decide⟩
  · intro k e h hl hh hd r e' h' hl' hde' hh' ht'
    rw [key k e h hl hh hd]
    rw [lookup_saveDirs, Option.map_eq_some_iff] at hl'
    obtain ⟨e0, hl0, rfl⟩ := hl'
    rw [isDirEntry_saveEntry] at hde'
    rw [saveEntry_file hde'] at hh'
    exact (hfiles (k ++ r) e0 h' hl0 hde' hh' ht').1

/-- saving twice changes nothing more -/
theorem saveDirs_idem (H : List Char → Str) (idx : Index) :
    saveDirs H (saveDirs H idx) = saveDirs H idx := by
  -- the second pass sees the same listings and re-writes each entry to what it already is
  rw [saveDirs_eq H (saveDirs H idx)]
  simp only [saveEntry_saveDirs]
  rw [saveDirs_eq, map_map]
  apply map_congr_left
  intro e _
  simp only [Function.comp, saveEntry_idem]

/-! ### a concrete saved index, compared with itself: it is `Merkle` and the shortcut fires on it -/

def exIdx : Index :=
  [ ([['d']], { mt := some { isdir := true } }),
    ([['d'], ['a']], { mt := some { size := some 3 }, hashInfo := some { name := some kMd5, value := some ['x', '1'] } }),
    ([['d'], ['s'], ['b']], { mt := some {}, hashInfo := some { name := some kMd5, value := some ['y', '2'] } }),
    ([['t']], { mt := some {}, hashInfo := some { name := some kMd5, value := some ['z'] } }) ]

example : Merkle id (saveDirs id exIdx) :=
  saveDirs_merkle id exIdx (by
    intro k e h hl hd hh ht
    have hm := AList.mem_of_lookup hl
    simp only [exIdx, List.mem_cons, Prod.mk.injEq, List.mem_nil_iff, or_false] at hm
    rcases hm with ⟨_, rfl⟩ | ⟨_, rfl⟩ | ⟨_, rfl⟩ | ⟨_, rfl⟩
    · simp [isDirEntry] at hd
    · simp only [Option.some.injEq] at hh; subst hh; exact ⟨rfl, by decide⟩
    · simp only [Option.some.injEq] at hh; subst hh; exact ⟨rfl, by decide⟩
    · simp only [Option.some.injEq] at hh; subst hh; exact ⟨rfl, by decide⟩)

theorem ex_lookup_d : (saveDirs id exIdx).lookup [['d']] =
    some (savedDirEntry id exIdx [['d']] { mt := some { isdir := true } }) := by
  rw [lookup_saveDirs]
  have : exIdx.lookup [['d']] = some { mt := some { isdir := true } } := by decide
  rw [this]; rfl

example : skipOf { hashOnly := true } (some (saveDirs id exIdx)) (some (saveDirs id exIdx)) [['d']] = true := by
  refine skipOf_iff.mpr ⟨rfl, rfl, diffEntry_refl _ _, ?_⟩
  rw [entryOf_lookup, ex_lookup_d]
  exact ⟨_, _, rfl, rfl, digest_isdir id _⟩

example : ((saveDirs id exIdx).lookup [['d']]).bind (·.mt) =
    some { isdir := true, size := some 3, nfiles := some 2, md5 := some (Tree.digest id (treeBelow exIdx [['d']])) } := by
  rw [ex_lookup_d]
  have h1 : treeSize (treeBelow exIdx [['d']]) = 3 := by decide
  have h2 : (treeBelow exIdx [['d']]).length = 2 := by decide
  simp [savedDirEntry, h1, h2]

end DvcData.IndexSave

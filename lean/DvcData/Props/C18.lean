import DvcData.Model.PushFetch
import DvcData.Proofs.AList
/-!
# C18 — push and fetch through storage mappings: what is reachable is planned for the storage its key resolves to
(`push_covers_reach`), and what is planned lies below a prefix that designates the storage (`plan_sound`)
-/
namespace DvcData.PushFetch
open DvcData Path IndexLazy List

theorem mem_matching {m : SMap} {k : Key} {e : Key × SInfo} :
    e ∈ matching m k ↔ (e ∈ m ∧ e.1.isPrefixOf k = true) := by
  unfold matching
  rw [(mergeSort_perm _ _).mem_iff]
  simp [List.mem_filter]

theorem matching_sorted (m : SMap) (k : Key) :
    (matching m k).Pairwise fun a b => b.1.length ≤ a.1.length := by
  unfold matching
  have := List.pairwise_mergeSort (le := fun (a b : Key × SInfo) => decide (b.1.length ≤ a.1.length))
    (fun a b c h1 h2 => by simp only [decide_eq_true_eq] at *; omega)        -- the Boolean order is transitive
    (fun a b => by simp only [Bool.or_eq_true, decide_eq_true_eq]; omega)     -- and total
    (m.filter fun e => e.1.isPrefixOf k)
  -- `this` is pairwise `decide (b.1.length ≤ a.1.length) = true`; the statement has the proposition itself
  exact this.imp (fun h => by simpa using h)

theorem head?_filterMap_sorted {α β : Type} (f : α → Option β) (len : α → Nat) (l : List α) (s : β)
    (h : (l.filterMap f).head? = some s) (hp : l.Pairwise (fun a b => len b ≤ len a)) :
    ∃ a ∈ l, f a = some s ∧ ∀ b ∈ l, (f b).isSome = true → len b ≤ len a := by
  rw [head?_filterMap, findSome?_eq_some_iff] at h
  obtain ⟨l₁, a, l₂, rfl, hfa, hnone⟩ := h
  refine ⟨a, by simp, hfa, fun b hb hsome => ?_⟩
  rcases mem_append.mp hb with hb | hb
  · rw [hnone b hb] at hsome; cases hsome
  · rcases mem_cons.mp hb with rfl | hb
    · exact Nat.le_refl _
    · exact rel_of_pairwise_cons (pairwise_append.mp hp).2.1 hb

/-- **resolution is by longest prefix, independently per role**: the storage returned for a role is
    the one of a mapping prefix of the key that defines that role, and no longer matching prefix
    defines the role -/
theorem resolve_longest_prefix_per_role (m : SMap) (k : Key) (r : Role) (s : StoreId)
    (h : resolveRole m k r = some s) :
    ∃ p info, (p, info) ∈ m ∧ p.isPrefixOf k = true ∧ info.get r = some s ∧
      ∀ q qi, (q, qi) ∈ m → q.isPrefixOf k = true → (qi.get r).isSome = true → q.length ≤ p.length := by
  obtain ⟨a, ha, hfa, hmax⟩ := head?_filterMap_sorted (fun e : Key × SInfo => e.2.get r) (fun e => e.1.length)
    (matching m k) s h (matching_sorted m k)
  obtain ⟨ham, hap⟩ := mem_matching.mp ha
  exact ⟨a.1, a.2, ham, hap, hfa, fun q qi hq hqp => hmax (q, qi) (mem_matching.mpr ⟨hq, hqp⟩)⟩

theorem mem_oidsUnder {idx : LIndex} {p : Key} {x : Oid} :
    x ∈ oidsUnder idx p ↔ ∃ e ∈ idx, p.isPrefixOf e.1 = true ∧ e.2.hash = some x := by
  unfold oidsUnder
  simp only [mem_foldl_insertSet, not_mem_nil, false_or, mem_filterMap, Option.ite_none_right_eq_some]

theorem mem_plan {load : Oid → Option Listing} {idx : LIndex} {m : SMap} {r : Role} {s : StoreId} {x : Oid} :
    x ∈ plan load idx m r s ↔ ∃ e ∈ m, e.2.get r = some s ∧ x ∈ oidsUnder (expand load idx) e.1 := by
  have key : ∀ (l : List (Key × SInfo)) (acc : List Oid),
      x ∈ l.foldl (fun acc e => (oidsUnder (expand load idx) e.1).foldl insertSet acc) acc ↔
      x ∈ acc ∨ ∃ e ∈ l, x ∈ oidsUnder (expand load idx) e.1 := by
    intro l
    induction l with
    | nil => simp
    | cons a l ih => intro acc; simp only [foldl_cons, ih, mem_foldl_insertSet, mem_cons, exists_eq_or_imp, or_assoc]
  simp only [plan, key, not_mem_nil, false_or, mem_filter, decide_eq_true_eq, and_assoc]

/-- **push covers what is reachable**: every hashed entry of the (loaded) index — directory objects
    and the files they list — is planned for the remote that the mapping designates for its key -/
theorem push_covers_reach (load : Oid → Option Listing) (idx : LIndex) (m : SMap) (k : Key) (e : LEntry)
    (x : Oid) (s : StoreId) (he : (k, e) ∈ expand load idx) (hx : e.hash = some x)
    (hres : resolveRole m k .remote = some s) : x ∈ plan load idx m .remote s := by
  obtain ⟨p, info, hp, hpk, hr, _⟩ := resolve_longest_prefix_per_role m k .remote s hres
  exact mem_plan.mpr ⟨(p, info), hp, hr, mem_oidsUnder.mpr ⟨(k, e), he, hpk, hx⟩⟩

/-- **and nothing else is planned**: a planned object belongs to an entry below a prefix that
    designates this storage -/
theorem plan_sound (load : Oid → Option Listing) (idx : LIndex) (m : SMap) (r : Role) (s : StoreId) (x : Oid)
    (h : x ∈ plan load idx m r s) :
    ∃ p info, (p, info) ∈ m ∧ info.get r = some s ∧ ∃ e ∈ expand load idx, p.isPrefixOf e.1 = true ∧ e.2.hash = some x := by
  obtain ⟨a, ham, hg, hxa⟩ := mem_plan.mp h
  exact ⟨a.1, a.2, ham, hg, mem_oidsUnder.mp hxa⟩

end DvcData.PushFetch

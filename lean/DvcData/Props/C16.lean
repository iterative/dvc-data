import DvcData.Proofs.Conc
/-!
# C16 — concurrent writers cannot corrupt a shared store

`Good` is the invariant of a configuration (shared store + all writers); `stepAt_good` shows that
any step of any writer preserves it, `runSched_good` lifts that to every schedule (= every
interleaving, every prefix of it, any number of writers), and `final_correct` reads off the
property: once the writers of a name have finished, what they asked for is there, matches its
name and is write-protected.
-/
namespace DvcData.Conc
open DvcData Crash AList

variable (root : Bool) (H : Bytes → Oid)

theorem getElem?_set_cases {α} {l : List α} {i j : Nat} {x y z : α} (hi : l[i]? = some x)
    (h : (l.set i y)[j]? = some z) : (j = i ∧ z = y) ∨ (j ≠ i ∧ l[j]? = some z) := by
  rw [List.getElem?_set'] at h
  split at h
  · next e => subst e; rw [hi] at h; exact Or.inl ⟨rfl, (Option.some.inj h).symm⟩
  · next e => exact Or.inr ⟨fun e' => e e'.symm, h⟩

theorem any_set {α} (f : α → Bool) (l : List α) (i : Nat) (x y : α) (h : l[i]? = some x) :
    (l.set i y).any f = ((l.eraseIdx i).any f || f y) := by
  have hlt := (List.getElem?_eq_some_iff.mp h).1
  simp only [List.set_eq_take_append_cons_drop, hlt, if_true, List.eraseIdx_eq_take_drop_succ, List.any_append,
    List.any_cons]
  cases (l.take i).any f <;> cases f y <;> simp

theorem sum_map_set {α} (f : α → Nat) (l : List α) (i : Nat) (x y : α) (h : l[i]? = some x) :
    ((l.set i y).map f).sum + f x = (l.map f).sum + f y := by
  obtain ⟨hlt, rfl⟩ := List.getElem?_eq_some_iff.mp h
  have hl : (l.map f).sum = ((l.take i).map f).sum + (f l[i] + ((l.drop (i + 1)).map f).sum) := by
    conv => lhs; rw [← List.take_append_drop i l, List.drop_eq_getElem_cons hlt]
    simp only [List.map_append, List.map_cons, List.sum_append_nat, List.sum_cons]
  rw [List.set_eq_take_append_cons_drop, if_pos hlt, hl]
  simp only [List.map_append, List.map_cons, List.sum_append_nat, List.sum_cons]
  omega

theorem forall_getElem?_singleton {α} {a : α} {P : Nat → α → Prop} (h : P 0 a) : ∀ (j : Nat) (b : α), [a][j]? = some b → P j b
  | 0, _, e => Option.some.inj e ▸ h
  | _ + 1, _, e => nomatch e

/-! ### occupancy flags of a list of writers -/

def anyPc (P : Pc → Bool) (ths : List Thread) (oid : Oid) : Bool :=
  ths.any fun th => decide (th.oid = oid) && P (th.pc)

def flagsOf (ths : List Thread) (oid : Oid) : Flags :=
  ⟨anyPc (fun pc => (flagsOfPc pc).u) ths oid, anyPc (fun pc => (flagsOfPc pc).s) ths oid,
   anyPc (fun pc => (flagsOfPc pc).w) ths oid, anyPc (fun pc => (flagsOfPc pc).n) ths oid,
   anyPc (fun pc => (flagsOfPc pc).d) ths oid⟩

theorem flagsOf_set (ths : List Thread) (i : Nat) (th th' : Thread) (oid : Oid) (h : ths[i]? = some th) :
    flagsOf (ths.set i th') oid =
      if th'.oid = oid then (flagsOf (ths.eraseIdx i) oid).or (flagsOfPc th'.pc) else flagsOf (ths.eraseIdx i) oid := by
  simp only [flagsOf, anyPc, any_set _ ths i th th' h]
  split <;> simp [*, Flags.or]

theorem flagsOf_split (ths : List Thread) (i : Nat) (th : Thread) (oid : Oid) (h : ths[i]? = some th) :
    flagsOf ths oid =
      if th.oid = oid then (flagsOf (ths.eraseIdx i) oid).or (flagsOfPc th.pc) else flagsOf (ths.eraseIdx i) oid := by
  obtain ⟨hlt, rfl⟩ := List.getElem?_eq_some_iff.mp h
  rw [← flagsOf_set ths i _ _ oid h, List.set_getElem_self]

theorem anyPc_eq_true (P : Pc → Bool) (ths : List Thread) (oid : Oid) :
    anyPc P ths oid = true ↔ ∃ (j : Nat) (th : Thread), ths[j]? = some th ∧ th.oid = oid ∧ P th.pc = true := by
  simp only [anyPc, List.any_eq_true, List.mem_iff_getElem?, Bool.and_eq_true, decide_eq_true_eq]
  exact ⟨fun ⟨th, ⟨j, hj⟩, h⟩ => ⟨j, th, hj, h⟩, fun ⟨j, th, hj, h⟩ => ⟨th, ⟨j, hj⟩, h⟩⟩

theorem anyPc_eq_false (P : Pc → Bool) (ths : List Thread) (oid : Oid)
    (h : ∀ (j : Nat) (th : Thread), ths[j]? = some th → th.oid = oid → P th.pc = false) : anyPc P ths oid = false := by
  cases hb : anyPc P ths oid with
  | false => rfl
  | true =>
    obtain ⟨j, th, hj, ho, hp⟩ := (anyPc_eq_true P ths oid).mp hb
    rw [h j th hj ho] at hp; cases hp

theorem anyPc_mono {P Q : Pc → Bool} (hpq : ∀ pc, P pc = true → Q pc = true) (ths : List Thread) (oid : Oid)
    (h : anyPc P ths oid = true) : anyPc Q ths oid = true := by
  rw [anyPc_eq_true] at *
  obtain ⟨j, th, hj, ho, hp⟩ := h
  exact ⟨j, th, hj, ho, hpq _ hp⟩

theorem flagsOf_ok {ths : List Thread} {oid : Oid} : (flagsOf ths oid).ok = true :=
  Flags.ok_iff.mpr
    ⟨anyPc_mono (fun pc => (Flags.ok_iff.mp (flagsOfPc_ok pc)).1) ths oid,
     anyPc_mono (fun pc => (Flags.ok_iff.mp (flagsOfPc_ok pc)).2.1) ths oid,
     anyPc_mono (fun pc => (Flags.ok_iff.mp (flagsOfPc_ok pc)).2.2) ths oid⟩


/-! ### the invariant of a configuration -/

structure Good (c : Cfg) : Prop where
  /-- names are content hashes: what a writer writes hashes to the name it writes it under -/
  wf : ∀ (j : Nat) (th : Thread), c.2[j]? = some th → H th.chunks.flatten = th.oid
  /-- temp names are unique per writer -/
  tdist : ∀ (i j : Nat) (thi thj : Thread), c.2[i]? = some thi → c.2[j]? = some thj → thi.t = thj.t → i = j
  /-- a writer in its copy loop finds in its temp file exactly what it has written so far -/
  tmp : ∀ (j : Nat) (th : Thread), c.2[j]? = some th → th.pc = Pc.write → c.1.tmps.lookup th.t = some (th.chunks.take th.k).flatten
  /-- the per-name invariant of the finite abstraction, for every name -/
  abs : ∀ oid, GoodAbs (absObj H c.1 oid) (flagsOf c.2 oid) = true

theorem stepAt_eq (c : Cfg) (i : Nat) : (c.2[i]? = none ∧ stepAt root H c i = c) ∨
    ∃ th, c.2[i]? = some th ∧ stepAt root H c i = ((th.step root H c.1).1, c.2.set i (th.step root H c.1).2) := by
  unfold stepAt
  cases c.2[i]? with
  | none => exact Or.inl ⟨rfl, rfl⟩
  | some th => exact Or.inr ⟨th, rfl, rfl⟩

theorem stepAt_good (c : Cfg) (i : Nat) (hg : Good H c) : Good H (stepAt root H c i) := by
  obtain ⟨_, h⟩ | ⟨th, hi, h⟩ := stepAt_eq root H c i <;> rw [h]
  · exact hg
  obtain ⟨hoid, ht, hch⟩ := step_oid root H c.1 th
  have hwf := hg.wf i th hi
  have htmp := hg.tmp i th hi
  refine ⟨fun j th' h => ?_, fun a b tha thb ha hb hab => ?_, fun j th' h hw => ?_, fun oid => ?_⟩
  · rcases getElem?_set_cases hi h with ⟨_, rfl⟩ | ⟨_, h'⟩
    · rw [hch, hoid]; exact hwf
    · exact hg.wf j th' h'
  · rcases getElem?_set_cases hi ha with ⟨rfl, rfl⟩ | ⟨_, ha'⟩ <;>
      rcases getElem?_set_cases hi hb with ⟨rfl, rfl⟩ | ⟨_, hb'⟩
    · rfl
    · exact hg.tdist _ _ _ _ hi hb' (ht ▸ hab)
    · exact hg.tdist _ _ _ _ ha' hi (ht ▸ hab)
    · exact hg.tdist _ _ _ _ ha' hb' hab
  · rcases getElem?_set_cases hi h with ⟨_, rfl⟩ | ⟨hne, h'⟩
    · exact step_own_tmp root H c.1 th htmp hw
    · rw [step_frame_tmps root H c.1 th th'.t fun e => hne (hg.tdist _ _ _ _ h' hi e.symm)]
      exact hg.tmp j th' h' hw
  · -- the other writers' flags stay; the stepping writer's own move with its pc, as `absStep` says
    have habs := hg.abs oid
    rw [flagsOf_split c.2 i th oid hi] at habs
    rw [flagsOf_set c.2 i th _ oid hi, hoid]
    by_cases e : th.oid = oid
    · subst e
      rw [if_pos rfl] at habs ⊢
      obtain ⟨h1, h2⟩ := step_abs root H c.1 th hwf htmp
      rw [h1, h2]
      exact absStep_good _ _ _ _ _ _ flagsOf_ok habs
    · rw [if_neg e] at habs ⊢
      rwa [absObj, step_frame_objs root H c.1 th oid e]

theorem runSched_good (c : Cfg) (sched : List Nat) (hg : Good H c) : Good H (runSched root H c sched) :=
  List.foldlRecOn sched _ hg fun c hc i _ => stepAt_good root H c i hc


/-! ### reading the property off the invariant -/

/-- where a writer starts: at the existence check (`add(..., check_exists=True)`), or straight at the copy
    (`check_exists=False`, what `transfer()` passes after a status query of its own made some time before) -/
def Pc.start (pc : Pc) : Prop := pc = Pc.stat ∨ pc = Pc.probe

/-- every writer about to start, over a store in which protected objects match their names
    (what C15 guarantees of any store these operations leave behind, crashes included) -/
theorem good_init (s : S) (ths : List Thread)
    (hpc : ∀ (j : Nat) (th : Thread), ths[j]? = some th → th.pc.start)
    (hwf : ∀ (j : Nat) (th : Thread), ths[j]? = some th → H th.chunks.flatten = th.oid)
    (htd : ∀ (i j : Nat) (thi thj : Thread), ths[i]? = some thi → ths[j]? = some thj → thi.t = thj.t → i = j)
    (hs : ∀ oid o, s.objs.lookup oid = some o → o.prot = true → H o.data = oid) : Good H (s, ths) := by
  refine ⟨hwf, htd, fun j th h hw => ?_, fun oid => ?_⟩
  · rcases hpc j th h with e | e <;> rw [e] at hw <;> cases hw
  · -- nobody is in the truncate–unlink window, has settled or is past its protect: only clause A is left
    have idle : ∀ P : Pc → Bool, P .stat = false → P .probe = false → anyPc P ths oid = false := fun P h1 h2 =>
      anyPc_eq_false P ths oid fun j th h _ => by rcases hpc j th h with e | e <;> rw [e] <;> assumption
    have hu := idle (fun pc => (flagsOfPc pc).u) rfl rfl
    have hs' := idle (fun pc => (flagsOfPc pc).s) rfl rfl
    have hd := idle (fun pc => (flagsOfPc pc).d) rfl rfl
    simp only [GoodAbs, flagsOf, hu, hs', hd, absObj]
    cases hl : s.objs.lookup oid with
    | none => simp
    | some o =>
      obtain ⟨d, p⟩ := o
      cases p
      · simp
      · simpa using hs oid _ hl rfl

theorem anyPc_const (P : Pc → Bool) (ths : List Thread) (oid : Oid) (pc : Pc)
    (hall : ∀ (j : Nat) (th : Thread), ths[j]? = some th → th.oid = oid → th.pc = pc)
    (hex : ∃ (j : Nat) (th : Thread), ths[j]? = some th ∧ th.oid = oid) : anyPc P ths oid = P pc := by
  cases h : P pc with
  | false => exact anyPc_eq_false P ths oid fun j th hj ho => by rw [hall j th hj ho, h]
  | true =>
    obtain ⟨j, th, hj, ho⟩ := hex
    exact (anyPc_eq_true P ths oid).mpr ⟨j, th, hj, ho, by rw [hall j th hj ho, h]⟩

/-- **C16 (final state).** In any configuration reachable under the invariant — i.e. after any
    schedule whatsoever — if the writers of a name have all finished successfully (and there is at
    least one), the object is present, matches its name and is write-protected. -/
theorem final_correct (c : Cfg) (hg : Good H c) (oid : Oid)
    (hall : ∀ (j : Nat) (th : Thread), c.2[j]? = some th → th.oid = oid → th.pc = Pc.done)
    (hex : ∃ (j : Nat) (th : Thread), c.2[j]? = some th ∧ th.oid = oid) :
    ∃ o, c.1.objs.lookup oid = some o ∧ H o.data = oid ∧ o.prot = true := by
  -- the flags of the name are those of `done`: clauses H and C of `GoodAbs` say what is there
  have habs := hg.abs oid
  simp only [flagsOf, anyPc_const _ c.2 oid .done hall hex, absObj] at habs
  cases hl : c.1.objs.lookup oid with
  | none => rw [hl] at habs; cases habs
  | some o =>
    obtain ⟨d, p⟩ := o
    cases p
    · simp [hl, GoodAbs, flagsOfPc] at habs
    · exact ⟨_, rfl, by simpa [hl, GoodAbs, flagsOfPc] using habs, rfl⟩

/-- **C16, every interleaving.** Start any number of writers (each with its own temp name, each
    writing bytes that hash to the name it writes them under) on a store whose protected objects
    match their names, and run *any* schedule.  Whenever the writers of a name have all finished
    successfully, the object is present, complete and write-protected. -/
theorem any_schedule_final_correct (s : S) (ths : List Thread) (sched : List Nat)
    (hpc : ∀ (j : Nat) (th : Thread), ths[j]? = some th → th.pc.start)
    (hwf : ∀ (j : Nat) (th : Thread), ths[j]? = some th → H th.chunks.flatten = th.oid)
    (htd : ∀ (i j : Nat) (thi thj : Thread), ths[i]? = some thi → ths[j]? = some thj → thi.t = thj.t → i = j)
    (hs : ∀ oid o, s.objs.lookup oid = some o → o.prot = true → H o.data = oid) (oid : Oid)
    (hall : ∀ (j : Nat) (th : Thread), (runSched root H (s, ths) sched).2[j]? = some th → th.oid = oid → th.pc = Pc.done)
    (hex : ∃ (j : Nat) (th : Thread), (runSched root H (s, ths) sched).2[j]? = some th ∧ th.oid = oid) :
    ∃ o, (runSched root H (s, ths) sched).1.objs.lookup oid = some o ∧ H o.data = oid ∧ o.prot = true :=
  final_correct H _ (runSched_good root H _ sched (good_init H s ths hpc hwf htd hs)) oid hall hex

/-! ### all writers succeed: wait-freedom, and no failure for a privileged process -/

def Pc.lost : Pc → Bool
  | .restat | .reread | .rediscard | .failed => true
  | _ => false

/-- a process that may write to read-only files is never refused: no writer ever leaves the main path -/
theorem step_root_not_lost (s : S) (th : Thread) (h : th.pc.lost = false) : (th.step true H s).2.pc.lost = false := by
  -- the branches of `Thread.step` are numbered as at `step_own_tmp` (Proofs/Conc.lean)
  fun_cases Thread.step true H s th
  case case9 h' => simp at h'  -- `probe` refused: impossible, `o.prot && !root` is false
  case case14 | case18 | case26 => exact h  -- `write` with a chunk left, `done`, `failed`: the pc stays
  all_goals first | rfl | (rw [‹th.pc = _›] at h; cases h)  -- on to a pc of the main path, or away from a lost one

/-- **C16 (all succeed, privileged process).** Under any schedule no writer fails. -/
theorem root_never_fails (s : S) (ths : List Thread) (sched : List Nat)
    (hpc : ∀ (j : Nat) (th : Thread), ths[j]? = some th → th.pc.start) :
    ∀ (j : Nat) (th : Thread), (runSched true H (s, ths) sched).2[j]? = some th → th.pc ≠ Pc.failed := by
  have key : ∀ (j : Nat) (th : Thread), (runSched true H (s, ths) sched).2[j]? = some th → th.pc.lost = false := by
    refine List.foldlRecOn (motive := fun c : Cfg => ∀ (j : Nat) (th : Thread), c.2[j]? = some th → th.pc.lost = false) sched _
      (fun j th h => ?_) fun c hc i _ j th hj => ?_
    · rcases hpc j th h with e | e <;> rw [e] <;> rfl
    · obtain ⟨_, h⟩ | ⟨thi, hi, h⟩ := stepAt_eq true H c i <;> rw [h] at hj
      · exact hc j th hj
      · rcases getElem?_set_cases hi hj with ⟨_, rfl⟩ | ⟨_, hj'⟩
        · exact step_root_not_lost H c.1 thi (hc i thi hi)
        · exact hc j th hj'
  intro j th hj hf
  have := key j th hj
  rw [hf] at this; cases this


theorem step_terminal_id (s : S) (th : Thread) (h : th.pc.terminal = true) : th.step root H s = (s, th) := by
  cases hpc : th.pc
  case done | failed => simp only [Thread.step, hpc]
  all_goals rw [hpc] at h; cases h

theorem measure_eq_zero_iff (th : Thread) : th.measure = 0 ↔ th.pc.terminal = true := by
  unfold Thread.measure
  cases th.pc <;> simp [Pc.terminal]

/-- wait-freedom: every step of a writer that has not finished brings it strictly closer to finishing,
    whatever the others do (there is no lock and no retry loop in the protocol) -/
theorem step_measure_lt (s : S) (th : Thread) (h : th.pc.terminal = false) :
    (th.step root H s).2.measure < th.measure := by
  -- the branches of `Thread.step` are numbered as at `step_own_tmp` (Proofs/Conc.lean)
  fun_cases Thread.step root H s th
  case case18 hpc | case26 hpc => rw [hpc] at h; cases h  -- `done`, `failed`: finished
  case case14 hc =>  -- `write` with a chunk left: `k` grows
    have := (List.getElem?_eq_some_iff.mp hc).1; simp only [Thread.measure, *]; omega
  all_goals simp only [Thread.measure, *] <;> omega  -- the new pc stands lower in the table of `measure`

/-- one statement for both kinds of writer: `- 1` is truncated, so for a finished one (measure 0, the step is the identity)
    it reads `0 ≤ 0` -/
theorem step_measure_le (s : S) (th : Thread) : (th.step root H s).2.measure ≤ th.measure - 1 := by
  cases h : th.pc.terminal with
  | false => have := step_measure_lt root H s th h; omega
  | true => rw [step_terminal_id root H s th h, (measure_eq_zero_iff th).mpr h]; exact Nat.le_refl _

/-- steps still owed by all writers together -/
def cfgMeasure (c : Cfg) : Nat := (c.2.map Thread.measure).sum

/-- a scheduled step is productive when it names a writer that has not finished -/
def productive (c : Cfg) (i : Nat) : Bool :=
  match c.2[i]? with
  | some th => !th.pc.terminal
  | none => false

def countProductive (c : Cfg) : List Nat → Nat
  | [] => 0
  | i :: r => (if productive c i then 1 else 0) + countProductive (stepAt root H c i) r

theorem stepAt_measure (c : Cfg) (i : Nat) :
    (if productive c i then 1 else 0) + cfgMeasure (stepAt root H c i) ≤ cfgMeasure c := by
  unfold productive cfgMeasure
  obtain ⟨hi, h⟩ | ⟨th, hi, h⟩ := stepAt_eq root H c i <;> rw [h, hi]
  · simp  -- an index that names no writer: a stutter, not productive
  · -- only writer `i` changes; write `th'` for it after its step:
    -- `hs : (sum after) + th.measure = (sum before) + th'.measure` and `hle : th'.measure ≤ th.measure - 1`
    have hs := sum_map_set Thread.measure c.2 i th (th.step root H c.1).2 hi
    have hle := step_measure_le root H c.1 th
    have h0 : th.measure = 0 ↔ th.pc.terminal = true := measure_eq_zero_iff th
    rcases Bool.eq_false_or_eq_true th.pc.terminal with ht | ht <;>
      simp only [ht, Bool.not_true, Bool.not_false, Bool.false_eq_true, if_true, if_false, iff_true, iff_false] at h0 ⊢
    · omega  -- finished, not productive (`0 + ..`): `h0` is now `th.measure = 0`, so by `hle` `th'.measure = 0` and the sums are equal
    · omega  -- unfinished, productive (`1 + ..`): `h0` is now `th.measure ≠ 0`, so `hle` is a strict decrease and the sum drops by one at least

/-- **C16 (termination).** Along any schedule the writers together perform at most
    `cfgMeasure` productive steps — one per remaining step of the protocol: nobody waits for
    anybody, so under any fair schedule every writer finishes. -/
theorem productive_steps_bounded (c : Cfg) (sched : List Nat) :
    countProductive root H c sched + cfgMeasure (runSched root H c sched) ≤ cfgMeasure c := by
  induction sched generalizing c with
  | nil => exact Nat.le_of_eq (Nat.zero_add _)
  | cons i r ih =>
    have h1 := stepAt_measure root H c i
    have h2 := ih (stepAt root H c i)
    simp only [countProductive, runSched, List.foldl_cons] at *
    omega


/-! ### atomic placement: under a final name there is never a partial object -/

def Placed (s : S) : Prop := ∀ oid o, s.objs.lookup oid = some o → o.data = [] ∨ H o.data = oid

theorem exec_placed {s : S} {st : Step} (hp : Placed H s)
    (hr : ∀ t oid b, st = .rename t oid → s.tmps.lookup t = some b → H b = oid) : Placed H (exec s st) := by
  -- the branches of `exec` are numbered as at `Crash.exec_frame_tmp`; only those that set or erase a final name matter
  fun_cases exec s st with
  | case1 oid => exact forall_lookup_set hp (Or.inl rfl)  -- `probeCreate`: an empty file
  | case2 oid | case12 oid => exact forall_lookup_erase oid hp  -- `probeUnlink`, `remove`
  | case6 t oid b hb => exact forall_lookup_set hp (Or.inr (hr t oid b rfl hb))  -- `rename`
  | case8 oid o ho => exact forall_lookup_set hp (hp oid o ho)  -- `protect`: same data
  | case3 | case4 | case5 | case7 | case9 | case10 | case11 => exact hp

theorem step_placed (s : S) (th : Thread) (hp : Placed H s) (hwf : H th.chunks.flatten = th.oid)
    (htmp : th.pc = Pc.write → s.tmps.lookup th.t = some (th.chunks.take th.k).flatten) :
    Placed H (th.step root H s).1 := by
  obtain ⟨_, _, h | ⟨st, hi, h⟩⟩ := step_exec root H s th <;> rw [h]
  · exact hp
  · refine exec_placed H hp fun t oid b e hb => ?_
    -- a writer renames its own temp file, once that holds all the chunks
    subst e
    cases hi with
    | rename hw hlast =>
      rw [htmp hw, List.take_of_length_le (List.getElem?_eq_none_iff.mp hlast)] at hb
      cases hb
      exact hwf

/-- **C16 (safety at every point of every interleaving).** Whatever the schedule and wherever it
    is cut, every file under a final name is either empty (a reflink probe in flight, or its leftover)
    or complete and matching its name: data only ever arrives by an atomic rename of a complete temp
    file, and writers never share a temp file. -/
theorem any_schedule_placed (c : Cfg) (sched : List Nat) (hg : Good H c) (hp : Placed H c.1) :
    Placed H (runSched root H c sched).1 := by
  refine (List.foldlRecOn (motive := fun c : Cfg => Good H c ∧ Placed H c.1) sched _ ⟨hg, hp⟩
    fun c hc i _ => ⟨stepAt_good root H c i hc.1, ?_⟩).2
  obtain ⟨_, h⟩ | ⟨th, hi, h⟩ := stepAt_eq root H c i <;> rw [h]
  · exact hc.2
  · exact step_placed root H c.1 th hc.2 (hc.1.wf i th hi) (hc.1.tmp i th hi)


/-! ### one writer alone: re-running after a crash recovers (C15) -/

/-- `n` steps of a writer that is alone on the store -/
def solo : Nat → S × Thread → S × Thread
  | 0, c => c
  | n + 1, c => solo n (c.2.step root H c.1)

theorem solo_rec {P : S × Thread → Prop} (hstep : ∀ c, P c → P (c.2.step root H c.1)) :
    ∀ (n : Nat) (c : S × Thread), P c → P (solo root H n c)
  | 0, _, h => h
  | n + 1, c, h => solo_rec hstep n _ (hstep c h)

theorem solo_terminal : ∀ (n : Nat) (s : S) (th : Thread), th.measure ≤ n → (solo root H n (s, th)).2.pc.terminal = true := by
  intro n
  induction n with
  | zero => intro s th h; exact (measure_eq_zero_iff th).mp (Nat.le_zero.mp h)
  | succ n ih =>
    intro s th h
    have := step_measure_le root H s th
    exact ih (th.step root H s).1 (th.step root H s).2 (by omega)

theorem solo_eq_runSched : ∀ (n : Nat) (s : S) (th : Thread),
    runSched root H (s, [th]) (List.replicate n 0) = ((solo root H n (s, th)).1, [(solo root H n (s, th)).2])
  | 0, _, _ => rfl
  | n + 1, _, _ => solo_eq_runSched n _ _

/-- a writer that is alone is never refused: when it probes, the name is free -/
def SoloOK (c : S × Thread) : Prop := c.2.pc.lost = false ∧ (c.2.pc = Pc.probe → c.1.objs.lookup c.2.oid = none)

theorem step_soloOK (s : S) (th : Thread) (h : SoloOK (s, th)) : SoloOK (th.step root H s) := by
  obtain ⟨hl, hp⟩ := h
  -- the branches of `Thread.step` are numbered as at `step_own_tmp` (Proofs/Conc.lean)
  fun_cases Thread.step root H s th
  -- it comes to `probe` having found the name free or having removed what was there, so the probe is not refused
  case case1 _ hlk | case4 _ hlk => exact ⟨rfl, fun _ => hlk⟩  -- `stat`, `read` find nothing: on to `probe`
  case case7 => exact ⟨rfl, fun _ => by rw [lookup_remove, if_pos rfl]⟩  -- `discard`: removed, on to `probe`
  case case9 hpc _ hlk _ => rw [hp hpc] at hlk; cases hlk  -- `probe` refused: impossible, the name is free
  case case14 hpc _ _ => exact ⟨hl, fun h => nomatch hpc.symm.trans h⟩  -- `write` with a chunk left: stays in `write`
  case case18 => exact ⟨hl, hp⟩  -- `done`
  all_goals first | exact ⟨rfl, nofun⟩ | (rw [‹th.pc = _›] at hl; cases hl)  -- on to a pc other than `probe`, or away from a lost one

/-- **C15 (re-running recovers), on the step model.** Take *any* store in which protected objects
    match their names — which is every store a crash can leave behind (`Crash.prefix_crash_safe`): whatever else
    is under the object's name (nothing, an empty probe leftover, garbage, a complete unprotected copy), running
    the add again to completion succeeds and leaves the object present, matching its name and write-protected —
    privileged or not. -/
theorem rerun_recovers (s : S) (th : Thread) (hpc : th.pc = Pc.stat) (hwf : H th.chunks.flatten = th.oid)
    (hs : ∀ oid o, s.objs.lookup oid = some o → o.prot = true → H o.data = oid) (n : Nat) (hn : th.measure ≤ n) :
    (solo root H n (s, th)).2.pc = Pc.done ∧
    ∃ o, (solo root H n (s, th)).1.objs.lookup th.oid = some o ∧ H o.data = th.oid ∧ o.prot = true := by
  -- the writer has stopped, and not by failing, since alone it is never refused
  have hterm := solo_terminal root H n s th hn
  obtain ⟨hok, hoid⟩ := solo_rec root H (P := fun c => SoloOK c ∧ c.2.oid = th.oid)
    (fun c h => ⟨step_soloOK root H c.1 c.2 h.1, (step_oid root H c.1 c.2).1.trans h.2⟩) n (s, th)
    ⟨⟨by rw [hpc]; rfl, by rw [hpc]; exact nofun⟩, rfl⟩
  have hdone : (solo root H n (s, th)).2.pc = Pc.done := by
    have hl := hok.1
    revert hterm hl
    cases (solo root H n (s, th)).2.pc <;> decide
  -- it is a one-writer schedule, so the invariant of configurations says what it leaves behind
  have idx : ∀ (j : Nat) (t : Thread), [th][j]? = some t → j = 0 := forall_getElem?_singleton rfl
  have hgood : Good H (s, [th]) := good_init H s [th] (forall_getElem?_singleton (Or.inl hpc))
    (forall_getElem?_singleton hwf) (fun i j _ _ hi hj _ => (idx i _ hi).trans (idx j _ hj).symm) hs
  have hrun := runSched_good root H (s, [th]) (List.replicate n 0) hgood
  rw [solo_eq_runSched] at hrun
  exact ⟨hdone, final_correct H _ hrun th.oid (forall_getElem?_singleton fun _ => hdone) ⟨0, _, rfl, hoid⟩⟩

/-! ### non-vacuity, and the schedule of the known finding -/

/-- a toy content hash for the examples below -/
def toyH : Bytes → Oid := fun b => if b = [1] then "a" else "z"

def three : List Thread :=
  [{ oid := "a", t := (0, 0), chunks := [[1]] }, { oid := "a", t := (1, 0), chunks := [[1]] }, { oid := "a", t := (2, 0), chunks := [[1]] }]

theorem three_idx (j : Nat) (th : Thread) (h : three[j]? = some th) :
    (j = 0 ∧ th = { oid := "a", t := (0, 0), chunks := [[1]] }) ∨ (j = 1 ∧ th = { oid := "a", t := (1, 0), chunks := [[1]] }) ∨
    (j = 2 ∧ th = { oid := "a", t := (2, 0), chunks := [[1]] }) :=
  match j, h with
  | 0, h => .inl ⟨rfl, (Option.some.inj h).symm⟩
  | 1, h => .inr (.inl ⟨rfl, (Option.some.inj h).symm⟩)
  | 2, h => .inr (.inr ⟨rfl, (Option.some.inj h).symm⟩)
  | _ + 3, h => nomatch h

/-- the hypotheses of `any_schedule_final_correct` are satisfiable, and a round-robin schedule of three
    writers of one object ends with everybody done and the object complete and protected -/
example : Good toyH (({} : S), three) := by
  refine good_init toyH {} three ?_ ?_ ?_ nofun
  · intro j th h; rcases three_idx j th h with ⟨_, rfl⟩ | ⟨_, rfl⟩ | ⟨_, rfl⟩ <;> exact Or.inl rfl
  · intro j th h; rcases three_idx j th h with ⟨_, rfl⟩ | ⟨_, rfl⟩ | ⟨_, rfl⟩ <;> decide
  · intro i j thi thj hi hj ht
    rcases three_idx i thi hi with ⟨rfl, rfl⟩ | ⟨rfl, rfl⟩ | ⟨rfl, rfl⟩ <;>
      rcases three_idx j thj hj with ⟨rfl, rfl⟩ | ⟨rfl, rfl⟩ | ⟨rfl, rfl⟩ <;> first | rfl | (simp at ht)

example : ((runSched true toyH (({} : S), three) (List.replicate 12 [0, 1, 2]).flatten).2.map (·.pc)) = [.done, .done, .done] ∧
    (runSched true toyH (({} : S), three) (List.replicate 12 [0, 1, 2]).flatten).1.objs = [("a", { data := [1], prot := true })] := by
  decide

/-- the known finding (unprivileged writers): writer 0 finds the name absent; writer 1 adds the object; writer 2
    (which also found it absent) truncates it while writer 1 protects it; writer 0's probe is refused, writer 2
    unlinks, writer 0's re-check finds nothing: it fails, although the others go on to complete the object. -/
example : ((runSched false toyH (({} : S), three) [0, 2, 1, 1, 1, 1, 1, 1, 2, 1, 0, 2, 0]).2.map (·.pc)) =
    [.failed, .save, .create] := by decide

/-- the same schedule in a privileged process: nobody fails (the probe truncates instead) -/
example : ((runSched true toyH (({} : S), three) [0, 2, 1, 1, 1, 1, 1, 1, 2, 1, 0, 2, 0]).2.map (·.pc)) =
    [.create, .save, .create] := by decide

end DvcData.Conc

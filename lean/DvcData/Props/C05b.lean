import DvcData.Model.CheckoutNone
import DvcData.Props.C05
/-!
  C05 for the removal of a whole directory output: with the directory itself processed last, every file in it is removed - or
  refused - on the strength of its *own* cache check, never on that of the directory object (`checkoutNone_safe`; the
  obligation the code failed while the directory's own entry could come first, finding F12).  The `example` is the counter-model: the same loop with
  the directory first destroys an uncached file without a word.
  On the files the loop is the deletion phase of an ordinary checkout (`delSeq_files`), so what C05 proves of `delAll`
  carries over; once the files are gone nothing more can be lost (`Safe.of_empty`).
-/
namespace DvcData.Checkout
open DvcData Path List

section
variable {cfg : Cfg} {cache : List Oid} {dirCached : Bool} {k : Key} {r : List Del} {w w' : Ws} {f : WFile}

theorem delSeq_file_none (h : w.lookup k = none) : delSeq cfg cache dirCached (.file k :: r) w = delSeq cfg cache dirCached r w := by
  simp [delSeq, h]

theorem delSeq_file_refuse (h : w.lookup k = some f) (hg : guardedRemove cfg cache w k f = none) :
    delSeq cfg cache dirCached (.file k :: r) w = (false, w) := by
  simp [delSeq, h, hg]

theorem delSeq_file_ok (h : w.lookup k = some f) (hg : guardedRemove cfg cache w k f = some w') :
    delSeq cfg cache dirCached (.file k :: r) w = delSeq cfg cache dirCached r w' := by
  simp [delSeq, h, hg]

theorem delSeq_root_refuse (h : removeRoot cfg dirCached w = none) : delSeq cfg cache dirCached (.root :: r) w = (false, w) := by
  simp [delSeq, h]

theorem delSeq_root_ok (h : removeRoot cfg dirCached w = some w') :
    delSeq cfg cache dirCached (.root :: r) w = delSeq cfg cache dirCached r w' := by
  simp [delSeq, h]

end

theorem delSeq_append (cfg : Cfg) (cache : List Oid) (dirCached : Bool) (a b : List Del) (w : Ws) :
    delSeq cfg cache dirCached (a ++ b) w =
      if (delSeq cfg cache dirCached a w).1 then delSeq cfg cache dirCached b (delSeq cfg cache dirCached a w).2
      else (false, (delSeq cfg cache dirCached a w).2) := by
  fun_induction delSeq cfg cache dirCached a w with
  | case1 => rfl
  | case2 k r w hk ih => rw [cons_append, delSeq_file_none hk, ih]
  | case3 k r w f hk hg => rw [cons_append, delSeq_file_refuse hk hg]; rfl
  | case4 k r w f hk w' hg ih => rw [cons_append, delSeq_file_ok hk hg, ih]
  | case5 r w hr => rw [cons_append, delSeq_root_refuse hr]; rfl
  | case6 r w w' hr ih => rw [cons_append, delSeq_root_ok hr, ih]

theorem delSeq_files (cfg : Cfg) (cache : List Oid) (dirCached : Bool) (ks : List Key) (w : Ws) :
    delSeq cfg cache dirCached (ks.map .file) w = ((delAll cfg cache ks w).1.isNone, (delAll cfg cache ks w).2) := by
  fun_induction delAll cfg cache ks w with
  | case1 => rfl
  | case2 k r w hk ih => rw [map_cons, delSeq_file_none hk, ih]
  | case3 k r w f hk hg => rw [map_cons, delSeq_file_refuse hk hg]; rfl
  | case4 k r w f hk w' hg ih => rw [map_cons, delSeq_file_ok hk hg, ih]

theorem eq_map_file_of_no_root : ∀ ds : List Del, (∀ d ∈ ds, d ≠ .root) → ∃ ks : List Key, ds = ks.map .file
  | [], _ => ⟨[], rfl⟩
  | .root :: _, h => absurd rfl (h .root (by simp))
  | .file k :: r, h =>
    have ⟨ks, hks⟩ := eq_map_file_of_no_root r fun d hd => h d (mem_cons_of_mem _ hd)
    ⟨k :: ks, by rw [hks]; rfl⟩

theorem delSeq_files_safe (cfg : Cfg) (hf : cfg.force = false) (hp : cfg.prompt ≠ some true) (cache : List Oid)
    (dirCached : Bool) (ws0 : Ws) : ∀ (ks : List Del) (w : Ws), (∀ d ∈ ks, d ≠ .root) → Safe cache ws0 w →
      Safe cache ws0 (delSeq cfg cache dirCached ks w).2 ∧
      ((delSeq cfg cache dirCached ks w).1 = true →
        (∀ k, Del.file k ∈ ks → (delSeq cfg cache dirCached ks w).2.lookup k = none) ∧
        (∀ k, w.lookup k = none → (delSeq cfg cache dirCached ks w).2.lookup k = none)) := by
  intro ds w hnr hs
  obtain ⟨ks, rfl⟩ := eq_map_file_of_no_root ds hnr
  rw [delSeq_files]
  refine ⟨delAll_safe cfg hf hp cache ws0 ks w hs, fun hok => ?_⟩
  have hl := delAll_lookup (Option.isNone_iff_eq_none.mp hok)
  refine ⟨fun k hk => ?_, fun k hk => ?_⟩
  · rw [hl, if_pos (by simpa using hk)]
  · rw [hl, hk, ite_self]

/-- once nothing is left nothing more can be lost: every original file is in the cache -/
theorem Safe.of_empty {cache : List Oid} {ws0 w : Ws} (hs : Safe cache ws0 w) (he : ∀ k, w.lookup k = none) (w' : Ws) :
    Safe cache ws0 w' :=
  fun k f h0 => Or.inr ((hs k f h0).resolve_left (by rw [he k]; exact nofun))

/-- the directory steps after the files: the workspace is empty by then, so the `rmtree` has nothing left to destroy
    (that it is empty is all the proof uses) -/
theorem delSeq_roots_safe (cfg : Cfg) (cache : List Oid) (dirCached : Bool) (ws0 : Ws) : ∀ (ks : List Del) (w : Ws),
    (∀ d ∈ ks, d = .root) → Safe cache ws0 w → (∀ k, w.lookup k = none) →
    Safe cache ws0 (delSeq cfg cache dirCached ks w).2 := by
  intro _ w _ hs he
  exact hs.of_empty he _

/-- **C05, removal of a directory output.**  Without force and without an affirmative prompt, whatever the removal did -
    completed, or stopped at a refusal - every file of the directory is still there unchanged or its content is in the cache,
    for every order in which `diff()` lists the entries, whether or not the directory *object* is cached: the directory itself
    goes only after every file in it has passed its own guard. (All files of the directory are entries of the old tree: no
    `ignore` filter.) -/
theorem checkoutNone_safe (cfg : Cfg) (hf : cfg.force = false) (hp : cfg.prompt ≠ some true) (cache : List Oid)
    (dirCached : Bool) (ws : Ws) (order : List Del) (hall : ∀ k f, ws.lookup k = some f → Del.file k ∈ order)
    (k : Key) (f : WFile) (h0 : ws.lookup k = some f) :
    (checkoutNone cfg cache dirCached ws order).2.lookup k = some f ∨ inCache cache f.oid = true := by
  unfold checkoutNone rootLast
  rw [delSeq_append]
  obtain ⟨s1, s2⟩ := delSeq_files_safe cfg hf hp cache dirCached ws (order.filter (· ≠ .root)) ws
    (fun d hd => by simpa using (mem_filter.mp hd).2) fun _ _ => Or.inl
  split
  · next hok =>
    -- the files phase ran to its end and the listing names every file: nothing is left
    obtain ⟨j1, j2⟩ := s2 hok
    refine delSeq_roots_safe cfg cache dirCached ws (order.filter (· = .root)) _
      (fun d hd => by simpa using (mem_filter.mp hd).2) s1 (fun k' => ?_) k f h0
    cases hk' : ws.lookup k' with
    | none => exact j2 k' hk'
    | some f' => exact j1 k' (mem_filter.mpr ⟨hall k' f' hk', by simp⟩)
  · exact s1 k f h0

/-- the hypotheses are met, and the order matters: the same loop *without* the sort removes the directory first, on the
    strength of the cached directory object, and an uncached file goes with it unasked -/
example :
    let cfg : Cfg := { force := false, relink := false, prompt := none, types := [.copy] }
    let ws : Ws := [([['p']], { oid := "precious", link := .copy })]
    -- as `_checkout` does it: refused, the file is still there
    checkoutNone cfg [] true ws [.root, .file [['p']]] = (false, ws) ∧
    -- the unsorted loop: completed, the file is gone although its content is nowhere else
    delSeq cfg [] true [.root, .file [['p']]] ws = (true, []) := by
  decide

/-- **the hypothesis `hall` of `checkoutNone_safe` cannot be dropped** (the C05 known finding, as a theorem about the model):
    a file of the directory that the old tree does not name - hidden by the caller's ignore object - whose content is in no
    cache is gone after a completed removal of the output, without force and without an affirmative prompt. -/
theorem checkoutNone_hidden_file_lost :
    ∃ (cfg : Cfg) (cache : List Oid) (ws : Ws) (order : List Del) (k : Key) (f : WFile),
      cfg.force = false ∧ cfg.prompt ≠ some true ∧ ws.lookup k = some f ∧ Del.file k ∉ order ∧
      (checkoutNone cfg cache true ws order).1 = true ∧
      (checkoutNone cfg cache true ws order).2.lookup k = none ∧ inCache cache f.oid = false :=
  ⟨{ force := false, relink := false, prompt := none, types := [.copy] }, ["tracked"],
    [(["a".toList], { oid := "tracked", link := .copy }), (["build.log".toList], { oid := "only-copy", link := .copy })],
    [.root, .file ["a".toList]], ["build.log".toList], { oid := "only-copy", link := .copy }, by decide⟩

end DvcData.Checkout

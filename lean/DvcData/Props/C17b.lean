import DvcData.Model.FsPath
import DvcData.Proofs.Path
/-!
  C17, the adaptor's path -> key conversion: the key of the path spelled from a key is that key, with or without the leading
  slash (`getKey_joinC`, `getKey_abs`), the root path is the root key, and whatever the spelling the key has only clean parts
  (`getKey_clean`).
-/
namespace DvcData.FsPath
open DvcData Path List

theorem stepComp_of_clean (acc : Key) {c : Part} (h : CleanPart c) : stepComp acc c = acc ++ [c] := by
  simp [stepComp, h.1, h.2.1, h.2.2.1]

theorem foldl_stepComp_clean (k acc : Key) (h : ∀ c ∈ k, CleanPart c) : k.foldl stepComp acc = acc ++ k := by
  induction k generalizing acc with
  | nil => exact (append_nil acc).symm
  | cons c r ih =>
    rw [foldl_cons, stepComp_of_clean acc (h c mem_cons_self), ih _ fun x hx => h x (mem_cons_of_mem _ hx),
      append_assoc, singleton_append]

/-- the path spelled from a key has that key; the root key `[]` is spelled by the empty path -/
theorem getKey_joinC_clean (k : Key) (h : ∀ c ∈ k, CleanPart c) : getKey (joinC k) = k := by
  cases k with
  | nil => rfl
  | cons p r =>
    rw [getKey, splitC_joinC _ ⟨cons_ne_nil _ _, fun c hc => (h c hc).2.2.2⟩, foldl_stepComp_clean _ [] h, nil_append]

theorem getKey_joinC (k : Key) (hne : k ≠ []) (h : ∀ c ∈ k, CleanPart c) : getKey (joinC k) = k :=
  getKey_joinC_clean k h

/-- a leading slash changes nothing -/
theorem getKey_abs (p : List Char) : getKey (sep :: p) = getKey p := by
  unfold getKey
  rw [splitC_sep_cons]
  simp [stepComp]

/-- ... so the absolute spelling of a key has that key too -/
theorem getKey_abs_joinC (k : Key) (hne : k ≠ []) (h : ∀ c ∈ k, CleanPart c) : getKey (sep :: joinC k) = k := by
  rw [getKey_abs, getKey_joinC k hne h]

/-- the root marker is the root key -/
theorem getKey_root : getKey [sep] = [] := by decide

/-- a component without a separator leaves a list of clean parts clean: it is dropped, pops the last one, or is
    itself clean -/
theorem stepComp_clean {acc : Key} {x : Part} (hacc : ∀ c ∈ acc, CleanPart c) (hx : sep ∉ x) :
    ∀ c ∈ stepComp acc x, CleanPart c := by
  unfold stepComp
  split
  · exact hacc
  · next h1 =>
    split
    · exact fun c hc => hacc c (dropLast_subset acc hc)
    · next h2 =>
      rw [not_or] at h1
      intro c hc
      rcases mem_append.mp hc with hc | hc
      · exact hacc c hc
      · rw [mem_singleton.mp hc]
        exact ⟨h1.1, h1.2, h2, hx⟩

/-- whatever the spelling, the key has only clean parts -/
theorem getKey_clean (p : List Char) : ∀ c ∈ getKey p, CleanPart c :=
  foldlRecOn (motive := fun acc => ∀ c ∈ acc, CleanPart c) (splitC p) stepComp (fun _ h => absurd h not_mem_nil)
    fun _ hacc x hx => stepComp_clean hacc ((splitC_KeyOK p).2 x hx)

/-- the key is a fixed point: spelling it out and reading it back changes nothing -/
theorem getKey_idem (p : List Char) (hne : getKey p ≠ []) : getKey (sep :: joinC (getKey p)) = getKey p :=
  getKey_abs_joinC (getKey p) hne (getKey_clean p)

example : getKey "/a/./b/../c//d".toList = [['a'], ['c'], ['d']] := by decide
example : getKey "../x".toList = [['x']] := by decide

end DvcData.FsPath

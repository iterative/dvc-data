import DvcData.Model.Hash
/-!
# C14 — hashing is correct, chunking-independent, and a faithful pass-through
-/
namespace DvcData.Hash

/-- either stream class hands the chunk on and counts it; they differ only in what they feed the hasher -/
theorem readStep_eq (name : String) (s : Stream) (c : Bytes) : readStep name s c =
    { fed := s.fed ++ (readStep name {} c).fed, total := s.total + c.length, passed := s.passed ++ [c] } := by
  unfold readStep
  split <;> simp [readDos2Unix, readPlain]

theorem foldl_readStep (name : String) (cs : List Bytes) (s : Stream) : cs.foldl (readStep name) s =
    { fed := s.fed ++ (cs.map fun c => (readStep name {} c).fed).flatten,
      total := s.total + cs.flatten.length, passed := s.passed ++ cs } := by
  induction cs generalizing s with
  | nil => simp
  | cons c r ih =>
    rw [List.foldl_cons, ih, readStep_eq name s c]
    simp [List.append_assoc, Nat.add_assoc]

theorem runStream_eq (name : String) (cs : List Bytes) : runStream name cs =
    { fed := (cs.map fun c => (readStep name {} c).fed).flatten, total := cs.flatten.length, passed := cs } := by
  simp [runStream, foldl_readStep]

/-- **chunking independence / correctness**: for every algorithm other than the legacy one, every
    content `b` and every read schedule `cs` (any partition of `b`), the digest is `H b`. -/
theorem fobjHash_eq {δ : Type} (H : Bytes → δ) (name : String) (hn : isDos2Unix name = false)
    (cs : List Bytes) : digest H (runStream name cs) = H cs.flatten := by
  have : ∀ c, (readStep name {} c).fed = c := fun c => by simp [readStep, hn, readPlain]
  simp [digest, runStream_eq, this]

/-- **pass-through and count, every stream class**: whatever the algorithm name — the legacy text-normalising
    one included — the chunks handed on are exactly the chunks read and `total_read` is the number of bytes
    read (not the number of bytes hashed) -/
theorem passthrough_all (name : String) (cs : List Bytes) :
    (runStream name cs).passed = cs ∧ (runStream name cs).total = cs.flatten.length := by
  rw [runStream_eq]
  exact ⟨rfl, rfl⟩

/-- **pass-through and count** for the plain stream class: the chunks handed on are exactly the chunks read,
    `total_read` is the number of bytes read (`passthrough_all` says it of every class) -/
theorem passthrough (name : String) (hn : isDos2Unix name = false) (cs : List Bytes) :
    (runStream name cs).passed = cs ∧ (runStream name cs).total = cs.flatten.length :=
  passthrough_all name cs

/-- the legacy text-normalising stream never alters the bytes passed through -/
theorem dos2unix_passthrough_raw (name : String) (hn : isDos2Unix name = true) (cs : List Bytes) :
    (runStream name cs).passed = cs :=
  (passthrough_all name cs).1

/-- a file that fits one read: digest of the normalised bytes if sniffed as text, raw otherwise -/
theorem dos2unix_single_read {δ : Type} (H : Bytes → δ) (name : String) (hn : isDos2Unix name = true)
    (c : Bytes) (hc : c ≠ []) :
    digest H (runStream name [c]) =
      H (if isTextBlock (c.take CHUNK) then dos2unix c else c) := by
  simp [runStream, readStep, hn, readDos2Unix, digest, List.isEmpty_eq_false_iff.mpr hc]

theorem binary_untouched {δ : Type} (H : Bytes → δ) (name : String) (hn : isDos2Unix name = true) (c : Bytes) (hc : c ≠ [])
    (hb : isTextBlock (c.take CHUNK) = false) : digest H (runStream name [c]) = H c := by
  rw [dos2unix_single_read H name hn c hc, hb]; rfl

theorem unix2dos_ne_lf (r t : Bytes) : unix2dos r ≠ 10 :: t := by
  cases r with
  | nil => simp [unix2dos]
  | cons c r' =>
    simp only [unix2dos]
    split
    · simp
    · next hc => simp [hc]

/-- normalising the CRLF variant of any byte string gives the byte string back -/
theorem dos2unix_unix2dos (u : Bytes) : dos2unix (unix2dos u) = u := by
  fun_induction unix2dos u with
  -- `dos2unix.eq_1` is its CRLF clause, `dos2unix.eq_2` the clause for any other head (side condition: no CRLF in front)
  | case1 => rfl
  | case2 r ih => rw [dos2unix.eq_1, ih]
  | case3 c r _ ih => rw [dos2unix.eq_2 c _ fun t _ e => unix2dos_ne_lf r t e, ih]

/-- no CR immediately followed by LF -/
def CRLFfree : Bytes → Bool
  | 13 :: 10 :: _ => false
  | _ :: r => CRLFfree r
  | [] => true

theorem dos2unix_of_CRLFfree (u : Bytes) (h : CRLFfree u = true) : dos2unix u = u := by
  fun_induction CRLFfree u with
  | case1 => cases h
  | case2 c r hne ih => rw [dos2unix.eq_2 c r hne, ih h]  -- the non-CRLF clause; `hne` is its side condition
  | case3 => rfl

/-- **CRLF and LF variants of a text file that fits one read get the same digest** — under the legacy name in
    any letter case -/
theorem crlf_lf_same_digest {δ : Type} (H : Bytes → δ) (name : String) (hn : isDos2Unix name = true) (u : Bytes) (hu : u ≠ [])
    (hfree : CRLFfree u = true)
    (ht1 : isTextBlock (u.take CHUNK) = true) (ht2 : isTextBlock ((unix2dos u).take CHUNK) = true) :
    digest H (runStream name [unix2dos u]) = digest H (runStream name [u]) := by
  have hne : unix2dos u ≠ [] := by
    cases u with
    | nil => exact absurd rfl hu
    | cons c r => simp only [unix2dos]; split <;> simp
  rw [dos2unix_single_read H name hn _ hne, dos2unix_single_read H name hn u hu,
    if_pos ht1, if_pos ht2, dos2unix_unix2dos, dos2unix_of_CRLFfree u hfree]

/-- the sniffing threshold in integers: text iff no NUL and at most 30 % non-text bytes -/
theorem isTextBlock_threshold (b : Bytes) (hne : b ≠ []) :
    isTextBlock b = true ↔ (0 ∉ b ∧ 10 * nontext b ≤ 3 * b.length) := by
  unfold isTextBlock
  simp only [List.isEmpty_eq_false_iff.mpr hne, Bool.false_eq_true, if_false]
  by_cases h0 : (0 : UInt8) ∈ b <;> simp [h0]

/-! non-vacuity -/
example : isDos2Unix "md5-dos2unix" = true ∧ isDos2Unix "MD5-DOS2UNIX" = true ∧ isDos2Unix "Md5-Dos2Unix" = true ∧
    isDos2Unix "md5" = false ∧ isDos2Unix "MD5" = false ∧ isDos2Unix "blake3" = false := by
  -- compared as lists of characters, where `simp` can evaluate literals
  simp [isDos2Unix, String.toLower, String.ext_iff]
example : CRLFfree [104, 105, 10, 120] = true ∧ isTextBlock ([104, 105, 10, 120].take CHUNK) = true ∧
    isTextBlock ((unix2dos [104, 105, 10, 120]).take CHUNK) = true := by decide
example : dos2unix [97, 13, 10, 13, 13, 10, 10] = [97, 10, 13, 10, 10] := by decide
example : isTextBlock [1, 2, 3, 65, 66, 67, 68, 69, 70, 71] = true ∧ isTextBlock [1, 2, 3, 4, 66, 67, 68, 69, 70, 71] = false := by decide

end DvcData.Hash

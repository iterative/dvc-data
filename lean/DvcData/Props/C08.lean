import DvcData.Model.IndexDiff
import DvcData.Proofs.AList
import DvcData.Proofs.Path
/-!
# C08 — index diff is exact: every key once, correctly classified, renames paired
-/
namespace DvcData.IndexDiff
open DvcData Path MetaInfo

def swapTyp : Typ → Typ
  | .add => .delete
  | .delete => .add
  | t => t

theorem swapTyp_swapTyp (t : Typ) : swapTyp (swapTyp t) = t := by cases t <;> rfl

theorem swapTyp_inj {a b : Typ} : swapTyp a = swapTyp b ↔ a = b :=
  ⟨fun h => by rw [← swapTyp_swapTyp a, h, swapTyp_swapTyp], congrArg swapTyp⟩

theorem swapTyp_eq_unchanged {t : Typ} : swapTyp t = .unchanged ↔ t = .unchanged :=
  swapTyp_inj (b := .unchanged)

theorem cmpMeta_symm (c : Cmp) (a b : Meta) : cmpMeta c a b = cmpMeta c b a := by
  cases c
  · exact decide_eq_decide.mpr eq_comm
  · simp only [cmpMeta]
    rw [Bool.beq_comm (a := a.isdir), Bool.beq_comm (a := a.isexec)]

theorem cmpMeta_refl (c : Cmp) (a : Meta) : cmpMeta c a a = true := by
  cases c <;> simp [cmpMeta, metaEq]

theorem diffMeta_swap (c : Cmp) (o n : Option Meta) : diffMeta c n o = swapTyp (diffMeta c o n) := by
  cases o <;> cases n <;> simp [diffMeta, swapTyp]
  rw [cmpMeta_symm]; split <;> rfl

theorem diffMeta_refl (c : Cmp) (m : Option Meta) : diffMeta c m m = .unchanged := by
  cases m <;> simp [diffMeta, cmpMeta_refl]

theorem diffMeta_unchanged_none (c : Cmp) (o n : Option Meta) (h : diffMeta c o n = .unchanged) :
    o.isNone = n.isNone := by
  cases o <;> cases n
  · rfl
  · cases h
  · cases h
  · rfl

/-- `_diff_hash_info` as a table over the truthiness of the two hashes -/
theorem diffHashInfo_eq (o n : Option HashInfo) : diffHashInfo o n =
    match hiTruthy o, hiTruthy n with
    | false, true => .add
    | true, false => .delete
    | false, false => .unchanged
    | true, true => if o = n then .unchanged else .modify := by
  unfold diffHashInfo
  cases ho : hiTruthy o <;> cases hn : hiTruthy n
  · cases o <;> cases n <;> rfl
  · rfl
  · rfl
  · cases o with
    | none => cases ho
    | some a =>
      cases n with
      | none => cases hn
      | some b => simp [hiEq]

theorem diffHashInfo_swap (o n : Option HashInfo) : diffHashInfo n o = swapTyp (diffHashInfo o n) := by
  rw [diffHashInfo_eq, diffHashInfo_eq]
  cases hiTruthy o <;> cases hiTruthy n
  · rfl
  · rfl
  · rfl
  · simp only [eq_comm (a := n)]
    split <;> rfl

theorem diffHashInfo_unchanged_iff (o n : Option HashInfo) :
    diffHashInfo o n = .unchanged ↔ hiTruthy o = hiTruthy n ∧ (hiTruthy o = true → o = n) := by
  rw [diffHashInfo_eq]
  cases hiTruthy o <;> cases hiTruthy n <;> simp

theorem diffHashInfo_refl (h : Option HashInfo) : diffHashInfo h h = .unchanged :=
  (diffHashInfo_unchanged_iff h h).mpr ⟨rfl, fun _ => rfl⟩

theorem entryDiffOf_swap (a b : Bool) : entryDiffOf b a = swapTyp (entryDiffOf a b) := by
  cases a <;> cases b <;> rfl

theorem entryDiffOf_self (a : Bool) : entryDiffOf a a = .unchanged := by cases a <;> rfl

theorem decide3_swap {mO hO : Bool} {e m h : Typ} {omN nmN oT nT : Bool}
    (h1 : m = .unchanged → omN = nmN) (h2 : h = .unchanged → oT = nT) :
    decide3 mO hO (swapTyp e) (swapTyp m) (swapTyp h) nmN nT = swapTyp (decide3 mO hO e m h omN oT) := by
  have c1 : (m = .unchanged ∧ nmN = true) ↔ (m = .unchanged ∧ omN = true) :=
    and_congr_right fun hm => by rw [h1 hm]
  have c2 : (h = .unchanged ∧ (!nT) = true) ↔ (h = .unchanged ∧ (!oT) = true) :=
    and_congr_right fun hh => by rw [h2 hh]
  unfold decide3
  -- every test compares partial verdicts with each other or with `unchanged`: as `swapTyp` is injective and
  -- fixes `unchanged` (and `modify`, the last resort), the swapped call takes the same branch
  simp only [swapTyp_eq_unchanged, swapTyp_inj, ne_eq, c1, c2, apply_ite swapTyp]
  -- the two sides differ in the last branch only: `modify` against `swapTyp modify`
  rfl

theorem decide3_unchanged (mO hO a b : Bool) : decide3 mO hO .unchanged .unchanged .unchanged a b = .unchanged := by
  simp [decide3]

/-- **swapping the sides swaps added and deleted and nothing else** (per entry) -/
theorem diffEntry_swap (o : Opts) (old new : Option Entry) :
    diffEntry o new old = swapTyp (diffEntry o old new) := by
  unfold diffEntry
  simp only
  rw [diffMeta_swap o.cmp (old.bind (·.mt)) (new.bind (·.mt)),
      diffHashInfo_swap (old.bind (·.hashInfo)) (new.bind (·.hashInfo)), entryDiffOf_swap]
  exact decide3_swap (diffMeta_unchanged_none _ _ _)
    fun h => ((diffHashInfo_unchanged_iff _ _).mp h).1

/-- **an entry compared with itself is unchanged** -/
theorem diffEntry_refl (o : Opts) (e : Option Entry) : diffEntry o e e = .unchanged := by
  unfold diffEntry
  simp only [diffMeta_refl, diffHashInfo_refl, entryDiffOf_self, decide3_unchanged]

theorem hasNode_of_lookup (idx : Index) (p suffix : Key) (e : Entry) (h : idx.lookup (p ++ suffix) = some e) :
    hasNode idx p = true := by
  unfold hasNode
  rw [List.any_eq_true]
  exact ⟨(p ++ suffix, e), AList.mem_of_lookup h, by simp [List.isPrefixOf_iff_prefix]⟩

theorem entryOf_lookup (idx : Index) (k : Key) : entryOf (some idx) k = (idx.lookup k).map fixMeta := by
  unfold entryOf optInfo infoAt
  simp only [Option.bind_some]
  cases hl : idx.lookup k with
  | none => split <;> rfl
  | some e => simp [hasNode_of_lookup idx k [] e (by simpa using hl)]

theorem mem_unionKeys {a b : List Key} {x : Key} : x ∈ unionKeys a b ↔ x ∈ a ∨ x ∈ b :=
  mem_foldl_insertSet

/-- a listing has no repetitions and consists of one-part extensions of the key -/
theorem lsAt_spec (idx : Option Index) (k : Key) :
    (lsAt idx k).Nodup ∧ ∀ c ∈ lsAt idx k, ∃ p, c = k ++ [p] := by
  fun_cases lsAt idx k
  · exact ⟨List.nodup_nil, nofun⟩
  · refine ⟨List.pairwise_map.mpr ?_, fun c hc => ?_⟩
    · -- the child names are collected without repetition, and `k ++ [·]` is injective
      exact (List.nodup_iff_pairwise_ne.mp (nodup_foldl_insertSet _ [] List.nodup_nil)).imp
        fun hab e => hab (by simpa using e)
    · obtain ⟨p, _, rfl⟩ := List.mem_map.mp hc
      exact ⟨p, rfl⟩
  · exact ⟨List.nodup_nil, nofun⟩

theorem itemsOf_sublist (o : Opts) (idx : Option Index) (k : Key) (e : Option Entry) :
    (itemsOf o idx k e).Sublist (lsAt idx k) := by
  fun_cases itemsOf o idx k e
  · exact List.nil_sublist _
  · exact List.Sublist.refl _

/-- the children the traversal descends into are distinct one-part extensions of the key -/
theorem childrenOf_spec (o : Opts) (old new : Option Index) (k : Key) :
    (childrenOf o old new k).Nodup ∧ ∀ c ∈ childrenOf o old new k, ∃ p, c = k ++ [p] := by
  unfold childrenOf
  refine ⟨nodup_foldl_insertSet _ _ ((lsAt_spec old k).1.sublist (itemsOf_sublist ..)), fun c hc => ?_⟩
  rcases mem_unionKeys.mp hc with hc | hc
  · exact (lsAt_spec old k).2 c ((itemsOf_sublist ..).subset hc)
  · exact (lsAt_spec new k).2 c ((itemsOf_sublist ..).subset hc)

theorem diffAt_succ (o : Opts) (old new : Option Index) (f : Nat) (k : Key) :
    diffAt o old new (f + 1) k = hereOf o old new k ++
      (if skipOf o old new k then []
       else if infoIsDir old k || infoIsDir new k then (childrenOf o old new k).flatMap (diffAt o old new f)
       else []) := rfl

theorem diffAt_succ_cases (o : Opts) (old new : Option Index) (f : Nat) (k : Key) :
    diffAt o old new (f + 1) k = hereOf o old new k ∨
    diffAt o old new (f + 1) k = hereOf o old new k ++ (childrenOf o old new k).flatMap (diffAt o old new f) := by
  rw [diffAt_succ]
  split
  · exact Or.inl (List.append_nil _)
  · split
    · exact Or.inr rfl
    · exact Or.inl (List.append_nil _)

theorem skipOf_iff {o : Opts} {old new : Option Index} {k : Key} :
    skipOf o old new k = true ↔ o.hashOnly = true ∧ o.withUnchanged = false ∧
      diffEntry o (entryOf old k) (entryOf new k) = .unchanged ∧
      ∃ e h, entryOf old k = some e ∧ e.hashInfo = some h ∧ h.isdir = true := by
  unfold skipOf
  simp only [Bool.and_eq_true, Bool.not_eq_true', decide_eq_true_eq, and_assoc]
  refine and_congr_right fun _ => and_congr_right fun _ => and_congr_right fun _ => ?_
  cases entryOf old k with
  | none => simp
  | some e => obtain ⟨_, hi, _⟩ := e; cases hi <;> simp

/-- what a change reported at `k` looks like -/
theorem mem_hereOf {o : Opts} {old new : Option Index} {k : Key} {c : Change} (h : c ∈ hereOf o old new k) :
    c.typ = diffEntry o (entryOf old k) (entryOf new k) ∧
    c.old = (entryOf old k).map (k, ·) ∧ c.new = (entryOf new k).map (k, ·) ∧
    ((entryOf old k).isSome ∨ (entryOf new k).isSome) ∧ (c.typ = .unchanged → o.withUnchanged = true) := by
  revert h
  fun_cases hereOf o old new k
  · exact fun h => absurd h List.not_mem_nil
  · exact fun h => absurd h List.not_mem_nil
  · -- `fun_cases` states the two tests that failed through the `let`s of `hereOf` (local definitions `oe`, `ne`, `typ`
    -- in the context); with those unfolded they read
    rename_i hnone hun
    have hnone : ¬((entryOf old k).isNone && (entryOf new k).isNone) = true := hnone
    have hun : ¬(decide (diffEntry o (entryOf old k) (entryOf new k) = .unchanged) && !o.withUnchanged) = true := hun
    intro h
    rw [List.mem_singleton.mp h]
    refine ⟨rfl, rfl, rfl, ?_, fun ht => ?_⟩
    · revert hnone
      cases entryOf old k <;> cases entryOf new k
      · exact fun hnone => absurd rfl hnone
      · exact fun _ => .inr rfl
      all_goals exact fun _ => .inl rfl
    · have ht : diffEntry o (entryOf old k) (entryOf new k) = .unchanged := ht
      -- were `withUnchanged` off, the second test would have succeeded
      exact eq_true_of_ne_false fun hw => hun (by rw [ht, hw]; rfl)

theorem diffAt_origin (o : Opts) (old new : Option Index) (f : Nat) (k : Key) (c : Change)
    (h : c ∈ diffAt o old new f k) : ∃ k', k <+: k' ∧ c ∈ hereOf o old new k' := by
  induction f generalizing k with
  | zero => cases h
  | succ f ih =>
    have here : c ∈ hereOf o old new k → ∃ k', k <+: k' ∧ c ∈ hereOf o old new k' :=
      fun h => ⟨k, List.prefix_refl k, h⟩
    rcases diffAt_succ_cases o old new f k with e | e <;> rw [e] at h
    · exact here h
    · rcases List.mem_append.mp h with h | h
      · exact here h
      · obtain ⟨ch, hch, hc⟩ := List.mem_flatMap.mp h
        obtain ⟨p, rfl⟩ := (childrenOf_spec o old new k).2 ch hch
        obtain ⟨k', hpre, hk'⟩ := ih _ hc
        exact ⟨k', (List.prefix_append k [p]).trans hpre, hk'⟩

/-- **soundness of the traversal**: every reported change sits at a key that has an entry on some
    side, carries exactly those entries, and is classified by `_diff_entry` of them -/
theorem diffAt_sound (o : Opts) (old new : Option Index) : ∀ (f : Nat) (k : Key) (c : Change),
    c ∈ diffAt o old new f k →
    ∃ k', c.typ = diffEntry o (entryOf old k') (entryOf new k') ∧
      c.old = (entryOf old k').map (k', ·) ∧ c.new = (entryOf new k').map (k', ·) ∧
      ((entryOf old k').isSome ∨ (entryOf new k').isSome) ∧
      (c.typ = .unchanged → o.withUnchanged = true) :=
  fun f k c h =>
    let ⟨k', _, h⟩ := diffAt_origin o old new f k c h
    ⟨k', mem_hereOf h⟩

/-- **an index diffed with itself shows no change** -/
theorem diffAt_self (o : Opts) (hu : o.withUnchanged = false) (i : Option Index) : ∀ (f : Nat) (k : Key),
    diffAt o i i f k = [] :=
  fun f k => List.eq_nil_iff_forall_not_mem.mpr fun c hc => by
    -- a reported change would be classified `unchanged`, and those are reported on request only
    obtain ⟨k', ht, _, _, _, hun⟩ := diffAt_sound o i i f k c hc
    rw [diffEntry_refl] at ht
    rw [hun ht] at hu
    cases hu

theorem diff_eq_diffAt (o : Opts) (h : o.withRenames = false) (old new : Option Index) :
    diff o old new = diffAt o old new (max (maxDepth old) (maxDepth new) + 2) [] := by
  simp [diff, h]

/-! ### completeness: every key with an entry on either side is visited -/

/-- well-formed index: an entry below another entry only if that one is a directory -/
def WFIdx (idx : Index) : Prop :=
  ∀ p suffix e e', suffix ≠ [] → idx.lookup (p ++ suffix) = some e → idx.lookup p = some e' →
    entryIsDir (fixMeta e') = true

def WFOpt : Option Index → Prop
  | none => True
  | some i => WFIdx i

/-- a key that has an entry on some side, seen from one of its prefixes -/
def HasBelow (idx : Option Index) (k : Key) : Prop :=
  match idx with
  | none => False
  | some i => (i.lookup k).isSome = true

theorem hasBelow_iff {idx : Option Index} {k : Key} :
    HasBelow idx k ↔ ∃ i e, idx = some i ∧ i.lookup k = some e := by
  cases idx with
  | none => simp [HasBelow]
  | some i => simp [HasBelow, Option.isSome_iff_exists]

theorem isDir_of_below {idx : Option Index} (hw : WFOpt idx) {p suffix : Key} (hs : suffix ≠ [])
    (h : HasBelow idx (p ++ suffix)) : infoIsDir idx p = true := by
  obtain ⟨i, e, rfl, hl⟩ := hasBelow_iff.mp h
  unfold infoIsDir optInfo infoAt
  simp only [Option.bind_some, hasNode_of_lookup i p suffix e hl, if_true]
  cases hp : i.lookup p with
  | none => rfl
  | some e' => simpa using hw p suffix e e' hs hl hp

theorem lsAt_of_below {idx : Option Index} {p : Key} {x : Part} {rest : Key}
    (h : HasBelow idx (p ++ x :: rest)) : p ++ [x] ∈ lsAt idx p := by
  obtain ⟨i, e, rfl, hl⟩ := hasBelow_iff.mp h
  unfold lsAt
  simp only [hasNode_of_lookup i p (x :: rest) e hl, if_true, List.mem_map]
  refine ⟨x, ?_, rfl⟩
  unfold childNames
  rw [mem_foldl_insertSet, List.mem_filterMap]
  exact Or.inr ⟨(p ++ x :: rest, e), AList.mem_of_lookup hl,
    by simp [stripPrefix_eq_some.mpr rfl]⟩

/-- **completeness**: with a consistent option set (no unchanged-subtree shortcut, not shallow),
    whatever `_diff_entry` reports for a key that has an entry on either side is part of the
    output, provided the traversal starts at a prefix of the key with enough fuel -/
theorem diffAt_complete (o : Opts) (hs : o.shallow = false)
    (hk : o.hashOnly = false ∨ o.withUnchanged = true) (old new : Option Index)
    (hwo : WFOpt old) (hwn : WFOpt new) :
    ∀ (suffix p : Key) (f : Nat), suffix.length < f →
      (HasBelow old (p ++ suffix) ∨ HasBelow new (p ++ suffix)) →
      ∀ c ∈ hereOf o old new (p ++ suffix), c ∈ diffAt o old new f p := by
  intro suffix
  induction suffix with
  | nil =>
    intro p f hf _ c hc
    obtain ⟨f, rfl⟩ := Nat.exists_eq_add_one.mpr hf
    rw [diffAt_succ]
    exact List.mem_append_left _ (by simpa using hc)
  | cons x rest ih =>
    intro p f hf hb c hc
    obtain ⟨f, rfl⟩ := Nat.exists_eq_add_one.mpr (Nat.zero_lt_of_lt hf)
    have hskip : skipOf o old new p = false := by rcases hk with h | h <;> simp [skipOf, h]
    have hdir : (infoIsDir old p || infoIsDir new p) = true :=
      Bool.or_eq_true_iff.mpr (hb.imp (isDir_of_below hwo (List.cons_ne_nil x rest))
        (isDir_of_below hwn (List.cons_ne_nil x rest)))
    -- the traversal descends into the child `p ++ [x]`, from where the key is one part nearer
    rw [diffAt_succ, hskip, hdir]
    have hch : p ++ [x] ∈ childrenOf o old new p := by
      unfold childrenOf itemsOf
      simp only [hs, Bool.false_and, Bool.false_eq_true, if_false]
      exact mem_unionKeys.mpr (hb.imp lsAt_of_below lsAt_of_below)
    refine List.mem_append_right _ (List.mem_flatMap.mpr ⟨p ++ [x], hch, ?_⟩)
    have e : p ++ x :: rest = (p ++ [x]) ++ rest := by simp
    rw [e] at hb hc
    exact ih (p ++ [x]) f (Nat.lt_of_succ_lt_succ hf) hb c hc

theorem foldl_max_ge {α : Type} (g : α → Nat) : ∀ (l : List α) (m : Nat),
    m ≤ l.foldl (fun m a => max m (g a)) m ∧ ∀ x ∈ l, g x ≤ l.foldl (fun m a => max m (g a)) m
  | [], m => ⟨Nat.le_refl m, nofun⟩
  | a :: r, m => by
    obtain ⟨h1, h2⟩ := foldl_max_ge g r (max m (g a))
    refine ⟨Nat.le_trans (Nat.le_max_left ..) h1, fun x hx => ?_⟩
    rcases List.mem_cons.mp hx with rfl | hx
    · exact Nat.le_trans (Nat.le_max_right ..) h1
    · exact h2 x hx

theorem length_le_maxDepth {idx : Option Index} {k : Key} (h : HasBelow idx k) : k.length ≤ maxDepth idx := by
  obtain ⟨i, e, rfl, hl⟩ := hasBelow_iff.mp h
  exact (foldl_max_ge (fun x : Key × Entry => x.1.length) i 0).2 (k, e) (AList.mem_of_lookup hl)

theorem hasBelow_of_entryOf {idx : Option Index} {k : Key} (h : (entryOf idx k).isSome = true) : HasBelow idx k := by
  cases idx with
  | none => cases h
  | some i => rwa [entryOf_lookup, Option.isSome_map] at h

/-- **completeness of `diff`**: the change `_diff` would report at a key is in the output of `diff` - for well-formed
    indexes and every option set without the unchanged-subtree shortcut, `shallow` or renames -/
theorem diff_complete (o : Opts) (hs : o.shallow = false) (hr : o.withRenames = false)
    (hk : o.hashOnly = false ∨ o.withUnchanged = true) (old new : Option Index)
    (hwo : WFOpt old) (hwn : WFOpt new) (k : Key) (c : Change) (hc : c ∈ hereOf o old new k) :
    c ∈ diff o old new := by
  have hb : HasBelow old k ∨ HasBelow new k :=
    (mem_hereOf hc).2.2.2.1.imp hasBelow_of_entryOf hasBelow_of_entryOf
  -- the fuel `diff` starts with is enough for every key that has an entry
  have hf : k.length < max (maxDepth old) (maxDepth new) + 2 :=
    Nat.lt_succ_of_le (Nat.le_succ_of_le (hb.elim
      (fun h => Nat.le_trans (length_le_maxDepth h) (Nat.le_max_left ..))
      (fun h => Nat.le_trans (length_le_maxDepth h) (Nat.le_max_right ..))))
  rw [diff_eq_diffAt o hr]
  exact diffAt_complete o hs hk old new hwo hwn k [] _ hf hb c hc

/-! ### every key is reported at most once -/

/-- the key a change is reported for -/
def nodeKey (c : Change) : Option Key :=
  match c.old with
  | some p => some p.1
  | none => c.new.map (·.1)

theorem nodeKey_hereOf {o : Opts} {old new : Option Index} {k : Key} {c : Change} (h : c ∈ hereOf o old new k) :
    nodeKey c = some k := by
  obtain ⟨_, ho, hn, hsome, _⟩ := mem_hereOf h
  unfold nodeKey
  rw [ho, hn]
  cases h1 : entryOf old k with
  | some e => rfl
  | none =>
    cases h2 : entryOf new k with
    | some e => rfl
    | none => simp [h1, h2] at hsome

/-- everything the traversal reports from node `k` downwards sits at a key that extends `k` -/
theorem diffAt_below (o : Opts) (old new : Option Index) : ∀ (f : Nat) (k : Key) (c : Change),
    c ∈ diffAt o old new f k → ∃ k', nodeKey c = some k' ∧ k <+: k' :=
  fun f k c h =>
    let ⟨k', hpre, h⟩ := diffAt_origin o old new f k c h
    ⟨k', nodeKey_hereOf h, hpre⟩

/-- **exactly once**: no key is reported twice by the traversal — for any two indexes, options and depth -/
theorem diffAt_nodup (o : Opts) (old new : Option Index) : ∀ (f : Nat) (k : Key),
    (diffAt o old new f k).Pairwise fun a b => nodeKey a ≠ nodeKey b := by
  intro f
  induction f with
  | zero => intro k; exact List.Pairwise.nil
  | succ f ih =>
    intro k
    have here : (hereOf o old new k).Pairwise fun a b => nodeKey a ≠ nodeKey b := by
      fun_cases hereOf o old new k
      · exact .nil
      · exact .nil
      · exact List.pairwise_singleton _ _
    have below : ∀ ch ∈ childrenOf o old new k, ∀ x ∈ diffAt o old new f ch,
        ∃ p k', ch = k ++ [p] ∧ nodeKey x = some k' ∧ ch <+: k' := by
      intro ch hch x hx
      obtain ⟨p, rfl⟩ := (childrenOf_spec o old new k).2 ch hch
      obtain ⟨k', hk', hpre⟩ := diffAt_below o old new f _ x hx
      exact ⟨p, k', rfl, hk', hpre⟩
    rcases diffAt_succ_cases o old new f k with e | e <;> rw [e]
    · exact here
    · refine List.pairwise_append.mpr ⟨here, List.pairwise_flatMap.mpr ⟨fun ch _ => ih ch, ?_⟩, ?_⟩
      · -- two children that are prefixes of one key are the same child
        refine (childrenOf_spec o old new k).1.imp_of_mem fun {c1 c2} h1 h2 hne x hx y hy hxy => ?_
        obtain ⟨p1, k1, rfl, hk1, hpre1⟩ := below c1 h1 x hx
        obtain ⟨p2, k2, rfl, hk2, hpre2⟩ := below c2 h2 y hy
        rw [hk1, hk2] at hxy
        cases hxy
        exact hne ((List.prefix_of_prefix_length_le hpre1 hpre2 (by simp)).eq_of_length (by simp))
      · -- `k` itself is shorter than any key below a child
        intro a ha b hb hab
        obtain ⟨ch, hch, hb⟩ := List.mem_flatMap.mp hb
        obtain ⟨p, k', rfl, hk', hpre⟩ := below ch hch b hb
        rw [nodeKey_hereOf ha, hk'] at hab
        cases hab
        exact Nat.not_succ_le_self _ (by simpa using hpre.length_le)

/-! ### rename detection -/

def newHash (c : Change) : Option HashInfo := c.new.bind (·.2.hashInfo)
def oldHash (c : Change) : Option HashInfo := c.old.bind (·.2.hashInfo)

theorem pairRenames_cons (a : Change) (adds dels : List Change) :
    (∃ d ∈ dels, hiTruthy (newHash a) = true ∧ oldHash d = newHash a ∧
      pairRenames (a :: adds) dels =
        ({ typ := .rename, old := d.old, new := a.new } :: (pairRenames adds (dels.erase d)).1,
         (pairRenames adds (dels.erase d)).2)) ∨
    ((hiTruthy (newHash a) = true → ∀ d ∈ dels, oldHash d ≠ newHash a) ∧
      pairRenames (a :: adds) dels = (a :: (pairRenames adds dels).1, (pairRenames adds dels).2)) := by
  simp only [pairRenames]
  split
  · rename_i d hm
    split at hm
    · rename_i htr
      have hm : dels.find? (fun d => decide (oldHash d = newHash a)) = some d := hm
      exact Or.inl ⟨d, List.mem_of_find?_eq_some hm, htr, by simpa using List.find?_some hm, rfl⟩
    · cases hm
  · rename_i hm
    refine Or.inr ⟨fun htr d hd heq => ?_, rfl⟩
    have hm : (if hiTruthy (newHash a) then dels.find? (fun d => decide (oldHash d = newHash a)) else none) = none := hm
    rw [if_pos htr] at hm
    exact List.find?_eq_none.mp hm d hd (decide_eq_true heq)

theorem pairRenames_rest_sub {adds dels : List Change} {d : Change} (h : d ∈ (pairRenames adds dels).2) :
    d ∈ dels := by
  induction adds generalizing dels with
  | nil => exact h
  | cons a r ih =>
    rcases pairRenames_cons a r dels with ⟨d0, _, _, _, e⟩ | ⟨_, e⟩ <;> rw [e] at h
    · exact List.mem_of_mem_erase (ih h)
    · exact ih h

theorem mem_pairRenames {adds dels : List Change} {c : Change} (h : c ∈ (pairRenames adds dels).1) :
    (∃ a ∈ adds, ∃ d ∈ dels, c = { typ := .rename, old := d.old, new := a.new } ∧
      hiTruthy (newHash a) = true ∧ oldHash d = newHash a) ∨
    (c ∈ adds ∧ (hiTruthy (newHash c) = true → ∀ d ∈ (pairRenames adds dels).2, oldHash d ≠ newHash c)) := by
  induction adds generalizing dels with
  | nil => cases h
  | cons a r ih =>
    rcases pairRenames_cons a r dels with ⟨d, hd, htr, hp, e⟩ | ⟨hno, e⟩
    · rw [e] at h ⊢
      rcases List.mem_cons.mp h with rfl | h
      · exact Or.inl ⟨a, List.mem_cons_self, d, hd, rfl, htr, hp⟩
      · rcases ih h with ⟨a', ha', d', hd', rest⟩ | ⟨hc, hrest⟩
        · exact Or.inl ⟨a', List.mem_cons_of_mem _ ha', d', List.mem_of_mem_erase hd', rest⟩
        · exact Or.inr ⟨List.mem_cons_of_mem _ hc, hrest⟩
    · rw [e] at h ⊢
      rcases List.mem_cons.mp h with rfl | h
      · exact Or.inr ⟨List.mem_cons_self, fun htr d hd => hno htr d (pairRenames_rest_sub hd)⟩
      · rcases ih h with ⟨a', ha', rest⟩ | ⟨hc, hrest⟩
        · exact Or.inl ⟨a', List.mem_cons_of_mem _ ha', rest⟩
        · exact Or.inr ⟨List.mem_cons_of_mem _ hc, hrest⟩

/-- **every rename pairs one deletion and one addition carrying the same (truthy) hash** -/
theorem pairRenames_sound : ∀ (adds dels : List Change) (c : Change),
    c ∈ (pairRenames adds dels).1 → c.typ = .rename →
    (∀ a ∈ adds, a.typ ≠ .rename) →
    ∃ a ∈ adds, ∃ d ∈ dels, c.old = d.old ∧ c.new = a.new ∧ hiTruthy (newHash a) = true ∧ oldHash d = newHash a := by
  intro adds dels c h ht hn
  rcases mem_pairRenames h with ⟨a, ha, d, hd, rfl, htr, hp⟩ | ⟨hc, _⟩
  · exact ⟨a, ha, d, hd, rfl, rfl, htr, hp⟩
  · exact absurd ht (hn c hc)

/-- **no matching pair is left unpaired**: an addition that stays an addition has no deletion with
    the same truthy hash among the deletions that stay deletions -/
theorem pairRenames_maximal : ∀ (adds dels : List Change) (a : Change),
    a ∈ (pairRenames adds dels).1 → a.typ = .add → (∀ x ∈ adds, x.typ = .add) →
    hiTruthy (newHash a) = true → ∀ d ∈ (pairRenames adds dels).2, oldHash d ≠ newHash a := by
  intro adds dels a h hta _ htr
  rcases mem_pairRenames h with ⟨_, _, _, _, rfl, _⟩ | ⟨_, hno⟩
  · cases hta
  · exact hno htr

theorem perm_filterMap_cons {α β : Type} {f : α → Option β} {a b : α} {l₁ l₂ : List α} (hab : f a = f b)
    (h : (l₁.filterMap f).Perm (l₂.filterMap f)) : ((a :: l₁).filterMap f).Perm ((b :: l₂).filterMap f) := by
  simp only [List.filterMap_cons, hab]
  cases f b with
  | none => exact h
  | some v => exact h.cons v

/-- **no key is lost or duplicated**: the old sides of the result are exactly the old sides of the
    deletions, the new sides exactly the new sides of the additions (as multisets) -/
theorem pairRenames_preserves : ∀ (adds dels : List Change),
    (∀ a ∈ adds, a.old = none) → (∀ d ∈ dels, d.new = none) →
    (((pairRenames adds dels).1 ++ (pairRenames adds dels).2).filterMap (·.old)).Perm (dels.filterMap (·.old)) ∧
    (((pairRenames adds dels).1 ++ (pairRenames adds dels).2).filterMap (·.new)).Perm (adds.filterMap (·.new)) := by
  intro adds
  induction adds with
  | nil =>
    intro dels _ hd
    exact ⟨List.Perm.refl _, by simp [pairRenames, List.filterMap_eq_nil_iff.mpr hd]⟩
  | cons a r ih =>
    intro dels ha hd
    have ha' : ∀ x ∈ r, x.old = none := fun x hx => ha x (List.mem_cons_of_mem _ hx)
    rcases pairRenames_cons a r dels with ⟨d, hdm, _, _, e⟩ | ⟨_, e⟩
    · -- the rename stands for `d` on the old side and for `a` on the new side
      obtain ⟨i1, i2⟩ := ih (dels.erase d) ha' fun x hx => hd x (List.mem_of_mem_erase hx)
      rw [e]
      exact ⟨(perm_filterMap_cons (b := d) rfl i1).trans ((List.perm_cons_erase hdm).filterMap _).symm,
        perm_filterMap_cons rfl i2⟩
    · obtain ⟨i1, i2⟩ := ih dels ha' hd
      rw [e]
      exact ⟨by simpa only [List.cons_append, List.filterMap_cons_none (ha a List.mem_cons_self)] using i1,
        perm_filterMap_cons rfl i2⟩

/-! ### for the files that build on the diff: the shortcut (C08b), `update` (C13b), checkout (C09) -/

theorem diffEntry_hashOnly (o : Opts) (hm : o.metaOnly = false) (hh : o.hashOnly = true) (old new : Option Entry) :
    diffEntry o old new = diffHashInfo (old.bind (·.hashInfo)) (new.bind (·.hashInfo)) := by
  simp [diffEntry, decide3, hm, hh]

theorem hashInfo_fixMeta (e : Entry) : (fixMeta e).hashInfo = e.hashInfo := by
  fun_cases fixMeta e <;> rfl

theorem entryOf_hashInfo (idx : Index) (k : Key) :
    (entryOf (some idx) k).bind (·.hashInfo) = (idx.lookup k).bind (·.hashInfo) := by
  rw [entryOf_lookup]
  cases idx.lookup k with
  | none => rfl
  | some e => exact hashInfo_fixMeta e

/-- a side of a change that the diff reported at `k` is the entry found there -/
theorem side_eq_some {idx : Option Index} {k : Key} {x : Option (Key × Entry)} {p : Key × Entry}
    (h : x = (entryOf idx k).map (k, ·)) (hp : x = some p) : ∃ e, entryOf idx k = some e ∧ p = (k, e) := by
  obtain ⟨e, he, rfl⟩ := Option.map_eq_some_iff.mp (h ▸ hp)
  exact ⟨e, he, rfl⟩

-- `_diff_entry` on two files that differ in size only
example : diffEntry {} (some { mt := some { size := some 1 }, hashInfo := none, loaded := none })
    (some { mt := some { size := some 2 }, hashInfo := none, loaded := none }) = .modify := by decide

end DvcData.IndexDiff

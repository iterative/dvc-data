import DvcData.Model.Crash
import DvcData.Proofs.AList
/-!
# C15 — a crash at any point leaves the store valid; C16 — concurrent writers cannot corrupt it

Step model (see `Model/Crash.lean`).  `intent t = (oid, data)` says what temp file `t` is being
written for; a step is *legal* when it is what a writer following the protocol would issue at that
moment.  Every legal step preserves the store invariant, so every prefix (crash) of every
interleaving (concurrent writers) of legal steps leaves the store valid.  That re-running recovers
is `Conc.rerun_recovers`, on the writers' model of `Props/C16.lean`.
-/
namespace DvcData.Crash
open DvcData AList

variable (H : Bytes → Oid) (intent : Tmp → Oid × Bytes)

/-- what must hold after a crash at any point -/
structure Inv (s : S) : Prop where
  /-- a write-protected object is complete and matches its name -/
  prot : ∀ oid o, s.objs.lookup oid = some o → o.prot = true → H o.data = oid
  /-- an object the hash-state database vouches for is there, complete and matching -/
  rows : ∀ oid, oid ∈ s.rows → ∃ o, s.objs.lookup oid = some o ∧ H o.data = oid
  /-- temp files only ever hold a prefix of the data they are written for -/
  tmps : ∀ t b, s.tmps.lookup t = some b → b <+: (intent t).2

/-- the steps a protocol-following writer may issue in state `s` -/
def Legal (s : S) : Step → Prop
  | .probeCreate oid => s.objs.lookup oid = none  -- a single writer only probes names its existence check found absent
  | .probeUnlink oid => oid ∉ s.rows      -- only names nothing vouches for are probed
  | .tmpCreate _ => True
  | .append t c => ∀ b, s.tmps.lookup t = some b → (b ++ c) <+: (intent t).2
  | .rename t oid => (∀ b, s.tmps.lookup t = some b → b = (intent t).2) ∧ (intent t).1 = oid ∧ H (intent t).2 = oid ∧
      -- never over a protected or vouched-for object with other content (names are content hashes)
      (∀ o, s.objs.lookup oid = some o → (o.prot = true ∨ oid ∈ s.rows) → H o.data = oid)
  | .protect oid => ∀ o, s.objs.lookup oid = some o → H o.data = oid
  | .saveRow oid => ∀ o, s.objs.lookup oid = some o → H o.data = oid
  | .remove oid => ∀ o, s.objs.lookup oid = some o → H o.data ≠ oid ∨ True

/-- the `rows` clause of `Inv` after a final name is set to an object; `rows_erase`: after one is erased -/
theorem rows_set {objs : AList Oid Obj} {rows : List Oid}
    (h : ∀ k, k ∈ rows → ∃ o, objs.lookup k = some o ∧ H o.data = k) {oid : Oid} (v : Obj) (hv : oid ∈ rows → H v.data = oid) :
    ∀ k, k ∈ rows → ∃ o, (objs.set oid v).lookup k = some o ∧ H o.data = k := by
  intro k hk
  by_cases e : oid = k
  · subst e; exact ⟨v, lookup_set_self _ _ _, hv hk⟩
  · rw [lookup_set_ne e]; exact h k hk

theorem rows_erase {objs : AList Oid Obj} {rows rows' : List Oid}
    (h : ∀ k, k ∈ rows → ∃ o, objs.lookup k = some o ∧ H o.data = k) {oid : Oid} (hsub : ∀ k, k ∈ rows' → k ∈ rows ∧ k ≠ oid) :
    ∀ k, k ∈ rows' → ∃ o, (objs.erase oid).lookup k = some o ∧ H o.data = k := by
  intro k hk
  rw [lookup_erase_ne (hsub k hk).2.symm]; exact h k (hsub k hk).1

theorem exec_preserves (s : S) (st : Step) (hi : Inv H intent s) (hl : Legal H intent s st) :
    Inv H intent (exec s st) := by
  -- the branches of `exec`, numbered in the order of its definition
  fun_cases exec s st with
  | case1 oid =>  -- `probeCreate`
    -- the name is free, so nothing vouches for it, and the empty file created is not protected
    have hnone : s.objs.lookup oid = none := hl
    have hr : oid ∉ s.rows := fun hr => by obtain ⟨o, ho, _⟩ := hi.rows oid hr; rw [hnone] at ho; cases ho
    exact ⟨forall_lookup_set hi.prot (by simp [hnone, protOf]), rows_set H hi.rows _ fun h => absurd h hr, hi.tmps⟩
  | case2 oid =>  -- `probeUnlink`
    exact ⟨forall_lookup_erase oid hi.prot, rows_erase H hi.rows fun k hk => ⟨hk, fun e => hl (e ▸ hk)⟩, hi.tmps⟩
  | case3 t => exact ⟨hi.prot, hi.rows, forall_lookup_set hi.tmps List.nil_prefix⟩  -- `tmpCreate`
  | case4 t c b hb => exact ⟨hi.prot, hi.rows, forall_lookup_set hi.tmps (hl b hb)⟩  -- `append`
  | case6 t oid b hb =>  -- `rename`
    obtain ⟨hcomplete, _, hhash, _⟩ := hl
    exact ⟨forall_lookup_set hi.prot nofun,
      rows_set H hi.rows _ fun _ => by rw [hcomplete b hb]; exact hhash, forall_lookup_erase t hi.tmps⟩
  | case8 oid o ho =>  -- `protect`
    exact ⟨forall_lookup_set hi.prot fun _ => hl o ho, rows_set H hi.rows _ fun _ => hl o ho, hi.tmps⟩
  | case10 oid hc =>  -- `saveRow`
    obtain ⟨o, ho⟩ := contains_eq_true_iff.mp hc
    refine ⟨hi.prot, fun k hk => ?_, hi.tmps⟩
    rcases mem_insertSet.mp hk with hk | rfl
    · exact hi.rows k hk
    · exact ⟨o, ho, hl o ho⟩
  | case12 oid =>  -- `remove`
    exact ⟨forall_lookup_erase oid hi.prot, rows_erase H hi.rows fun k hk => by simpa using List.mem_filter.mp hk, hi.tmps⟩
  | case5 | case7 | case9 | case11 => exact hi  -- no temp file / no object there: nothing changes

/-- every step of the list is legal at the moment it is executed -/
def AllLegalFrom : S → List Step → Prop
  | _, [] => True
  | s, st :: r => Legal H intent s st ∧ AllLegalFrom (exec s st) r

theorem allLegal_take (s : S) (steps : List Step) (k : Nat) (h : AllLegalFrom H intent s steps) :
    AllLegalFrom H intent s (steps.take k) := by
  induction steps generalizing s k with
  | nil => rw [List.take_nil]; trivial
  | cons a r ih =>
    cases k with
    | zero => trivial
    | succ k => exact ⟨h.1, ih (exec s a) k h.2⟩

theorem run_preserves (s : S) (steps : List Step) (hi : Inv H intent s) (h : AllLegalFrom H intent s steps) :
    Inv H intent (run s steps) := by
  induction steps generalizing s with
  | nil => exact hi
  | cons a r ih => exact ih (exec s a) (exec_preserves H intent s a hi h.1) h.2

/-- **C15 (crash safety of the step model).** Whatever legal step sequence an operation — or any
    interleaving of several writers — issues, the store is valid after *every prefix* of it: no
    incomplete or mismatching object is write-protected or vouched for by the hash-state. -/
theorem prefix_crash_safe (s : S) (steps : List Step) (k : Nat) (hi : Inv H intent s)
    (h : AllLegalFrom H intent s steps) : Inv H intent (run s (steps.take k)) :=
  run_preserves H intent s (steps.take k) hi (allLegal_take H intent s steps k h)

/-! ### a writer's own steps are legal, whatever other writers do in between -/

/-- in a valid store, overwriting the object at `oid` by a complete temp whose content hashes to
    `oid` is always legal: what the invariant says about a protected or vouched-for object there is
    exactly what the rename needs -/
theorem rename_legal_of_inv (s : S) (hi : Inv H intent s) (t : Tmp) (oid : Oid)
    (hcomplete : ∀ b, s.tmps.lookup t = some b → b = (intent t).2)
    (hint : (intent t).1 = oid) (hh : H (intent t).2 = oid) : Legal H intent s (.rename t oid) := by
  refine ⟨hcomplete, hint, hh, fun o ho hpv => ?_⟩
  rcases hpv with hp | hr
  · exact hi.prot oid o ho hp
  · obtain ⟨o', ho', hv⟩ := hi.rows oid hr
    rw [ho] at ho'; cases ho'; exact hv

/-- the data-writing part of one add, from a state where the temp file holds what has been written so far (`done`):
    all legal, and at the end the temp holds exactly the data -/
theorem appends_legal (t : Tmp) (chunks : List Bytes) : ∀ (s : S) (done : Bytes),
    s.tmps.lookup t = some done → done ++ chunks.flatten = (intent t).2 →
    AllLegalFrom H intent s (chunks.map (.append t)) ∧
    (run s (chunks.map (.append t))).tmps.lookup t = some (intent t).2 := by
  induction chunks with
  | nil =>
    intro s done hl hd
    rw [List.flatten_nil, List.append_nil] at hd
    exact ⟨trivial, hd ▸ hl⟩
  | cons c r ih =>
    intro s done hl hd
    rw [List.flatten_cons, ← List.append_assoc] at hd
    have hstep : (exec s (.append t c)).tmps.lookup t = some (done ++ c) := by
      simp only [exec, hl, lookup_set_self]
    refine ⟨⟨fun b hb => ?_, (ih _ _ hstep hd).1⟩, (ih _ _ hstep hd).2⟩
    rw [hl] at hb; cases hb
    exact hd ▸ List.prefix_append _ _

/-! non-vacuity: a complete add of "ab" under its (toy) hash, and a crash before the rename -/
example : (run {} (addSteps "h" (0, 0) [[97], [98]])).objs = [("h", { data := [97, 98], prot := true })] ∧
    (run {} (addSteps "h" (0, 0) [[97], [98]])).rows = ["h"] := by decide
example : (run {} ((addSteps "h" (0, 0) [[97], [98]]).take 4)).objs = [] := by decide

end DvcData.Crash

import DvcData.Model.IndexUpdate
import DvcData.Props.C08
/-!
  C13 (carried-over hashes, directories): `update()` carries a directory's tree hash only when nothing that the diff
  reports strictly below the directory is added, deleted or modified (F26).
-/
namespace DvcData.IndexUpdate
open DvcData Path MetaInfo IndexDiff

/-- `k` is a proper prefix of `k'` -/
def ProperPrefix (k k' : Key) : Prop := ∃ p rest, k' = k ++ p :: rest

theorem mem_properPrefixes (k k' : Key) : k ∈ properPrefixes k' ↔ ProperPrefix k k' := by
  unfold properPrefixes ProperPrefix
  simp only [List.mem_map, List.mem_range]
  constructor
  · rintro ⟨i, hi, rfl⟩
    cases hdr : k'.drop i with
    | nil => exact absurd (List.drop_eq_nil_iff.mp hdr) (Nat.not_le_of_lt hi)
    | cons p rest => exact ⟨p, rest, by rw [← hdr, List.take_append_drop]⟩
  · rintro ⟨p, rest, rfl⟩
    exact ⟨k.length, by simp, by simp⟩

theorem mem_dirtyKeys {cs : List Change} {k : Key} :
    k ∈ dirtyKeys cs ↔ ∃ c ∈ cs, c.typ ≠ .unchanged ∧ ProperPrefix k (changeKey c) := by
  unfold dirtyKeys
  simp only [List.mem_flatMap, List.mem_filter, decide_eq_true_eq, mem_properPrefixes, and_assoc]

/-- **what `update` carries over.**  A hash written into the new index at `k` is the old entry's hash of a change the
    metadata-only diff reported as unchanged at `k`; and if the new entry there is a directory, no change reported
    strictly below `k` is an addition, deletion or modification. -/
theorem carried_sound (cs : List Change) (k : Key) (h : Option HashInfo)
    (hl : AList.lookup (carriedOf cs) k = some h) :
    ∃ c ∈ cs, c.typ = .unchanged ∧
      (∃ ok o e, c.old = some (ok, o) ∧ c.new = some (k, e) ∧ h = o.hashInfo) ∧
      (newIsDir c = true → ∀ c' ∈ cs, c'.typ ≠ .unchanged → ¬ ProperPrefix k (changeKey c')) := by
  obtain ⟨c, hc, hv⟩ := List.mem_filterMap.mp (AList.mem_of_lookup hl)
  refine ⟨c, hc, ?_⟩
  by_cases ht : c.typ = .unchanged
  · rw [if_pos ht] at hv
    cases ho : c.old with
    | none => rw [ho] at hv; cases hv
    | some po =>
      cases hn : c.new with
      | none => rw [ho, hn] at hv; cases hv
      | some pn =>
        obtain ⟨ok, o⟩ := po
        obtain ⟨k2, e⟩ := pn
        rw [ho, hn] at hv
        dsimp only at hv
        by_cases hcond : (newIsDir c && (dirtyKeys cs).contains k2) = true
        · rw [if_pos hcond] at hv; cases hv
        · rw [if_neg hcond] at hv
          cases hv
          refine ⟨ht, ⟨ok, o, e, rfl, rfl, rfl⟩, fun hd c' hc' ht' hp => hcond ?_⟩
          rw [hd, Bool.true_and, List.contains_iff_mem]
          exact mem_dirtyKeys.2 ⟨c', hc', ht', hp⟩
  · rw [if_neg ht] at hv; cases hv

/-- `update` changes nothing but hashes: same keys in the same order, every other field of every entry untouched -/
theorem update_keys (old new : Index) : (update old new).map (·.1) = new.map (·.1) := by
  unfold update
  simp only [List.map_map]
  apply List.map_congr_left
  intro e _
  simp only [Function.comp]
  split <;> rfl

/-- `update` touches nothing but hashes: an entry keeps its key, metadata and `loaded` flag; its hash is the new
    index's own or a carried one -/
theorem update_fields {old new : Index} {k : Key} {e' : Entry} (hm : (k, e') ∈ update old new) :
    ∃ e, (k, e) ∈ new ∧ e'.mt = e.mt ∧ e'.loaded = e.loaded ∧
      (e'.hashInfo = e.hashInfo ∨
        AList.lookup (carriedOf (diff uOpts (some old) (some new))) k = some e'.hashInfo) := by
  unfold update at hm
  simp only [List.mem_map] at hm
  obtain ⟨⟨k0, e0⟩, hin, heq⟩ := hm
  split at heq
  · rename_i h hl
    simp only [Prod.mk.injEq] at heq
    obtain ⟨rfl, rfl⟩ := heq
    exact ⟨e0, hin, rfl, rfl, Or.inr hl⟩
  · simp only [Prod.mk.injEq] at heq
    obtain ⟨rfl, rfl⟩ := heq
    exact ⟨e0, hin, rfl, rfl, Or.inl rfl⟩

/-- **F26 as a theorem about the whole update**: a directory entry of the new index whose hash `update` replaced has
    nothing added, deleted or modified below it. -/
theorem update_dir_hash_only_if_clean (old new : Index) (k : Key) (e' : Entry)
    (hm : (k, e') ∈ update old new) :
    (∃ e, (k, e) ∈ new ∧ e'.hashInfo = e.hashInfo) ∨
    ∃ c ∈ diff uOpts (some old) (some new), c.typ = .unchanged ∧
      (∃ ok o e, c.old = some (ok, o) ∧ c.new = some (k, e) ∧ e'.hashInfo = o.hashInfo) ∧
      (newIsDir c = true → ∀ c' ∈ diff uOpts (some old) (some new), c'.typ ≠ .unchanged →
        ¬ ProperPrefix k (changeKey c')) := by
  obtain ⟨e, hin, _, _, hh⟩ := update_fields hm
  rcases hh with hh | hh
  · exact Or.inl ⟨e, hin, hh⟩
  · exact Or.inr (carried_sound _ k _ hh)

/-- **a carried hash crosses equal metadata only, at the whole-index level**: when `update` replaces the hash of the entry
    at `k`, both indexes have an entry at `k`, the new hash is the old entry's, and the metadata-only comparison of the two
    entries (`_diff_entry` with `meta_only`) says unchanged - so `update_copies_only_equal_meta` applies to them. -/
theorem update_carried_equal_meta (old new : Index) (k : Key) (e' : Entry) (hm : (k, e') ∈ update old new)
    (hne : ∀ e, (k, e) ∈ new → e'.hashInfo ≠ e.hashInfo) :
    ∃ o e, entryOf (some old) k = some o ∧ entryOf (some new) k = some e ∧ e'.hashInfo = o.hashInfo ∧
      diffEntry uOpts (some o) (some e) = .unchanged := by
  rcases update_dir_hash_only_if_clean old new k e' hm with ⟨e, hin, heq⟩ | ⟨c, hc, ht, ⟨ok, o, e, ho, hn, hh⟩, _⟩
  · exact absurd heq (hne e hin)
  · -- the change was reported at some key, with the entries found there; its new side says that key is `k`
    rw [diff_eq_diffAt uOpts rfl] at hc
    obtain ⟨k', htyp, hold, hnew, _⟩ := diffAt_sound uOpts (some old) (some new) _ _ c hc
    obtain ⟨_, hen, hk⟩ := side_eq_some hnew hn
    cases hk
    obtain ⟨_, heo, hk⟩ := side_eq_some hold ho
    cases hk
    exact ⟨o, e, heo, hen, hh, by rw [← heo, ← hen, ← htyp, ht]⟩

/-! non-vacuity: a directory with a tree hash, a file below it modified -> not carried; nothing modified -> carried -/
private def hi (v : String) : Option HashInfo := some { name := some kMd5, value := some v.toList }
private def fmeta (n : Nat) : Option Meta := some { size := some n }
private def dmeta : Option Meta := some { isdir := true, size := some 4096 }
private def oldI : Index := [(["d".toList], { mt := dmeta, hashInfo := hi "t.dir" }), (["d".toList, "a".toList], { mt := fmeta 4, hashInfo := hi "h1" })]
private def newSame : Index := [(["d".toList], { mt := dmeta }), (["d".toList, "a".toList], { mt := fmeta 4 })]
private def newEdit : Index := [(["d".toList], { mt := dmeta }), (["d".toList, "a".toList], { mt := fmeta 8 })]

example : ((update oldI newSame).map fun e => e.2.hashInfo) = [hi "t.dir", hi "h1"] := by decide
example : ((update oldI newEdit).map fun e => e.2.hashInfo) = [none, none] := by decide

end DvcData.IndexUpdate

import DvcData.Proofs.Transfer
/-!
# C04 — transfer keeps the destination closed; C11 — the result tells the truth

Theorems about `Transfer.transferWith`, the model of `transfer()` after `compare_status`.
They hold for every listing function, every set of new objects, every processing order of the
directories, every failure predicate and every crash cut.
-/
namespace DvcData.Transfer
open DvcData Status

variable {Oid : Type} [DecidableEq Oid]

/-- the request is closed with respect to the status that was computed: every file listed by a
    directory that has to be uploaded is already in the destination, has to be uploaded too, or
    is known to be missing on both sides; listed objects are files; `dirOrder` enumerates the new
    directories -/
structure ClosedReq (cx : Ctx Oid) (dest0 new dirOrder : List Oid) : Prop where
  entries : ∀ d ∈ dirOrder, ∀ f ∈ cx.L d, f ∈ dest0 ∨ f ∈ new ∨ f ∈ cx.missing
  files : ∀ d ∈ dirOrder, ∀ f ∈ cx.L d, cx.isDir f = false
  dirs : ∀ d, d ∈ dirOrder ↔ (d ∈ new ∧ cx.isDir d = true)

omit [DecidableEq Oid] in
theorem closedReq_acc {cx : Ctx Oid} {dest0 new dirOrder : List Oid} (h : ClosedReq cx dest0 new dirOrder) :
    Acc cx (start cx dest0 new) dirOrder := by
  intro d hd f hf
  rcases h.entries d hd f hf with h1 | h1 | h1
  · exact Or.inl h1
  · exact Or.inr (Or.inl (List.mem_filter.mpr ⟨h1, by simp [h.files d hd f hf]⟩))
  · exact Or.inr (Or.inr (Or.inr h1))

/-- **C04 (main): the destination is closed at every crash cut**, whatever fails, in whatever
    order the directories are processed. -/
theorem transfer_closed_every_cut (cx : Ctx Oid) (dest0 new dirOrder : List Oid)
    (idx : Option (RIndex Oid)) (h0 : Closed cx dest0) (hreq : ClosedReq cx dest0 new dirOrder)
    (k : Nat) (hk : dest0.length ≤ k) :
    Closed cx ((transferWith cx dest0 new idx dirOrder).dest.take k) := by
  by_cases hne : new = []
  · simpa [hne, transferWith, List.take_of_length_le hk] using h0
  · rw [transferWith_dest hne]
    exact closed_every_prefix cx _ dirOrder k h0 (fun x hx => by simpa using (List.mem_filter.mp hx).2)
      (closedReq_acc hreq) hk

/-- in particular the final destination is closed -/
theorem transfer_closed_final (cx : Ctx Oid) (dest0 new dirOrder : List Oid)
    (idx : Option (RIndex Oid)) (h0 : Closed cx dest0) (hreq : ClosedReq cx dest0 new dirOrder) :
    Closed cx (transferWith cx dest0 new idx dirOrder).dest := by
  have := transfer_closed_every_cut cx dest0 new dirOrder idx h0 hreq
    ((transferWith cx dest0 new idx dirOrder).dest.length + dest0.length) (by omega)
  rwa [List.take_of_length_le (by omega)] at this

/-- **C11: every object that had to move is delivered or reported failed** (nothing is silently
    dropped; a withheld directory object is reported as failed) -/
theorem absent_accounted (cx : Ctx Oid) (dest0 new dirOrder : List Oid) (idx : Option (RIndex Oid))
    (hreq : ClosedReq cx dest0 new dirOrder) (x : Oid) (hx : x ∈ new)
    (habs : x ∉ (transferWith cx dest0 new idx dirOrder).dest) :
    x ∈ (transferWith cx dest0 new idx dirOrder).failed := by
  have hne := List.ne_nil_of_mem hx
  rw [transferWith_dest hne] at habs
  -- the objects that have to move are the new files, which start as pending, and the new directories
  refine mem_transferWith_failed.mpr ⟨hne, (doTransfer_accounts cx (start cx dest0 new) dirOrder x ?_).resolve_left habs⟩
  by_cases hd : cx.isDir x = true
  · exact Or.inr ((hreq.dirs x).mpr ⟨hx, hd⟩)
  · exact Or.inl (List.mem_filter.mpr ⟨hx, by simpa using hd⟩)

/-- **C11: what is reported as transferred is in the destination** -/
theorem transferred_present (cx : Ctx Oid) (dest0 new dirOrder : List Oid) (idx : Option (RIndex Oid))
    (hreq : ClosedReq cx dest0 new dirOrder) (x : Oid)
    (hx : x ∈ (transferWith cx dest0 new idx dirOrder).transferred) :
    x ∈ (transferWith cx dest0 new idx dirOrder).dest := by
  obtain ⟨hn, hf⟩ := mem_transferWith_transferred.mp hx
  exact Decidable.byContradiction fun habs => hf (absent_accounted cx dest0 new dirOrder idx hreq x hn habs)

/-- **C11: transferred and failed partition the new objects** -/
theorem result_partition (cx : Ctx Oid) (dest0 new dirOrder : List Oid) (idx : Option (RIndex Oid))
    (hreq : ClosedReq cx dest0 new dirOrder) (x : Oid) :
    (x ∈ new ↔ (x ∈ (transferWith cx dest0 new idx dirOrder).transferred ∨
                x ∈ (transferWith cx dest0 new idx dirOrder).failed)) ∧
    ¬ (x ∈ (transferWith cx dest0 new idx dirOrder).transferred ∧
       x ∈ (transferWith cx dest0 new idx dirOrder).failed) := by
  -- all that is needed beyond `transferred = new \ failed`: only new objects are reported failed
  have hsub : x ∈ (transferWith cx dest0 new idx dirOrder).failed → x ∈ new := fun hx => by
    rcases doTransfer_failed_sub cx _ dirOrder x (mem_transferWith_failed.mp hx).2 with h | h | h
    · cases h
    · exact ((hreq.dirs x).mp h).1
    · exact (List.mem_filter.mp h).1
  rw [mem_transferWith_transferred]
  by_cases hf : x ∈ (transferWith cx dest0 new idx dirOrder).failed <;> simp [hf, hsub]

/-- **C04: a clean retry completes**: with no failing upload and no listed file missing on both
    sides, nothing fails and every new object ends up in the destination -/
theorem retry_completes (cx : Ctx Oid) (dest0 new dirOrder : List Oid) (idx : Option (RIndex Oid))
    (hreq : ClosedReq cx dest0 new dirOrder) (hnf : ∀ x, cx.fails x = false)
    (hm : ∀ d ∈ dirOrder, ∀ f ∈ cx.L d, f ∉ cx.missing) :
    (transferWith cx dest0 new idx dirOrder).failed = [] ∧
    ∀ x ∈ new, x ∈ (transferWith cx dest0 new idx dirOrder).dest := by
  have h1 : (transferWith cx dest0 new idx dirOrder).failed = [] :=
    List.eq_nil_iff_forall_not_mem.mpr fun x hx => by
      have := (mem_transferWith_failed.mp hx).2
      rw [doTransfer_nofail cx hnf _ dirOrder rfl hm] at this; cases this
  refine ⟨h1, fun x hx => Decidable.byContradiction fun habs => ?_⟩
  have := absent_accounted cx dest0 new dirOrder idx hreq x hx habs
  rw [h1] at this; cases this

/-! non-vacuity: two directories sharing file 1, whose upload fails (the F2 scenario) -/
def cxF2 : Ctx Nat :=
  { L := fun d => if d = 10 then [1, 2] else if d = 11 then [1, 3] else [],
    isDir := fun d => decide (d ≥ 10), fails := fun x => decide (x = 1), missing := [] }

example : (transferWith cxF2 [] [1, 2, 3, 10, 11] none [10, 11]).dest = [2, 3] ∧
    (transferWith cxF2 [] [1, 2, 3, 10, 11] none [10, 11]).failed = [1, 10, 11] ∧
    (transferWith cxF2 [] [1, 2, 3, 10, 11] none [10, 11]).transferred = [2, 3] := by decide

example : ClosedReq cxF2 [] [1, 2, 3, 10, 11] [10, 11] := by
  refine ⟨by decide, by decide, fun d => ?_⟩
  show d ∈ [10, 11] ↔ d ∈ [1, 2, 3, 10, 11] ∧ decide (d ≥ 10) = true
  simp only [List.mem_cons, List.not_mem_nil, or_false, decide_eq_true_eq]
  constructor
  · rintro (rfl | rfl) <;> decide
  · rintro ⟨h, hge⟩; omega

end DvcData.Transfer

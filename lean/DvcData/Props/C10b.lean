import DvcData.Model.LinkRecord
import DvcData.Proofs.AList
import DvcData.Proofs.Tree
/-!
  C10, "the link record it saves matches the resulting workspace".

  `fromChanges_lookup`: the dictionary checkout assembles from its own bookkeeping (`updated_mtimes` + the unchanged entries'
  recorded metadata) is, as a finite map, exactly `{path: mtime}` of the files that are in the workspace afterwards - provided
  each recorded mtime is the file's mtime now and the two lists together name exactly the files that are there.
  `record_token_matches`: hence what `_tokenize_mtimes` hashes for the record is what `get_mtime_and_size` hashes when it walks
  the directory (same canonical item list), so `get_unused_links` recognises the untouched directory.
  The proof computes `lookup` of the two folds in closed form: while every recorded mtime is `ws`'s, each yields `ws`
  restricted to the paths it lists, on top of what was bound before (`lookup_fromChanges_eq`).
-/
namespace DvcData.LinkRecord
open DvcData Json List

theorem wf_fromChanges (stat : Path → Option Mtime) (updated : List (Path × Mtime)) (unchanged : List (Path × Option Mtime)) :
    AList.WF (fromChanges stat updated unchanged) := by
  refine foldlRecOn unchanged _ (foldlRecOn updated _ AList.wf_nil fun m hm e _ => AList.wf_set m e.1 e.2 hm)
    fun m hm e _ => ?_
  fun_cases addUnchanged stat m e with
  | case1 => exact hm
  | case2 => exact AList.wf_set m e.1 _ hm
  | case3 => exact AList.wf_set m e.1 _ hm
  | case4 => exact hm

theorem ite_or_ite {α : Type} (a b : Prop) [Decidable a] [Decidable b] (x : Option α) :
    (if a then x else none).or (if b then x else none) = if a ∨ b then x else none := by
  by_cases ha : a
  · simp only [ha, true_or, if_true]
    split
    · exact Option.or_self
    · exact Option.or_none
  · simp only [ha, false_or, if_false, Option.none_or]

section
variable {ws : Dict}

theorem lookup_foldl_set_agree {l : List (Path × Mtime)} {m : Dict} (hu : ∀ e ∈ l, ws.lookup e.1 = some e.2) (p : Path) :
    (l.foldl (fun m e => m.set e.1 e.2) m).lookup p = if p ∈ l.map (·.1) then ws.lookup p else m.lookup p := by
  induction l generalizing m with
  | nil => rfl
  | cons e r ih =>
    rw [foldl_cons, ih fun x hx => hu x (mem_cons_of_mem _ hx), AList.lookup_set]
    simp only [map_cons, mem_cons]
    by_cases he : e.1 = p
    · simp only [← he, hu e mem_cons_self, true_or, if_true, ite_self]
    · simp only [he, Ne.symm he, false_or, if_false]

theorem lookup_addUnchanged {m : Dict} {e : Path × Option Mtime} (he : ∀ t, e.2 = some t → ws.lookup e.1 = some t)
    (p : Path) :
    (addUnchanged ws.lookup m e).lookup p = (m.lookup p).or (if p = e.1 then ws.lookup p else none) := by
  have hm : ¬ m.contains e.1 = true → m.lookup e.1 = none := fun hc =>
    AList.contains_eq_false_iff.mp (Bool.eq_false_iff.mpr hc)
  -- writing `ws`'s own binding at a path that is not bound yet
  have hw : ∀ t, ¬ m.contains e.1 = true → ws.lookup e.1 = some t →
      (m.set e.1 t).lookup p = (m.lookup p).or (if p = e.1 then ws.lookup p else none) := by
    intro t hc ht
    split
    · next h => rw [h, AList.lookup_set_self, hm hc, ht]; rfl
    · next h => rw [AList.lookup_set_ne (Ne.symm h), Option.or_none]
  fun_cases addUnchanged ws.lookup m e with
  | case1 hc =>
    -- bound already: `or` keeps the binding
    obtain ⟨t, ht⟩ := AList.contains_eq_true_iff.mp hc
    split
    · next h => rw [h, ht]; rfl
    · exact Option.or_none.symm
  | case2 hc t ht => exact hw t hc (he t ht)        -- the recorded mtime, which is current
  | case3 hc hn t ht => exact hw t hc ht            -- the stat itself
  | case4 hc hn ht =>
    -- the path is gone: nothing is written, and `ws` has nothing there either
    split
    · next h => rw [h, hm hc, ht]; rfl
    · exact Option.or_none.symm

theorem lookup_foldl_addUnchanged {l : List (Path × Option Mtime)} {m : Dict}
    (hn : ∀ e ∈ l, ∀ t, e.2 = some t → ws.lookup e.1 = some t) (p : Path) :
    (l.foldl (addUnchanged ws.lookup) m).lookup p =
      (m.lookup p).or (if p ∈ l.map (·.1) then ws.lookup p else none) := by
  induction l generalizing m with
  | nil => exact Option.or_none.symm
  | cons e r ih =>
    rw [foldl_cons, ih fun x hx => hn x (mem_cons_of_mem _ hx), lookup_addUnchanged (hn e mem_cons_self),
      Option.or_assoc, ite_or_ite]
    simp only [map_cons, mem_cons]

theorem lookup_fromChanges_eq {updated : List (Path × Mtime)} {unchanged : List (Path × Option Mtime)}
    (hu : ∀ e ∈ updated, ws.lookup e.1 = some e.2)
    (hn : ∀ e ∈ unchanged, ∀ t, e.2 = some t → ws.lookup e.1 = some t) (p : Path) :
    (fromChanges ws.lookup updated unchanged).lookup p =
      if p ∈ updated.map (·.1) ∨ p ∈ unchanged.map (·.1) then ws.lookup p else none := by
  rw [fromChanges, lookup_foldl_addUnchanged hn, ofUpdated, lookup_foldl_set_agree hu, AList.lookup_nil, ite_or_ite]

end

/-- **the assembled dictionary is the workspace's.**  `ws` = the files under the checkout directory afterwards;
    every stat recorded after a write is current (`hu`), every mtime the dry build recorded for an unchanged file is current
    (`hn`), and the two lists together name exactly the files that are there (`hcov`; a listed path that is gone is skipped) -/
theorem fromChanges_lookup (ws : Dict) (updated : List (Path × Mtime)) (unchanged : List (Path × Option Mtime))
    (hu : ∀ e ∈ updated, ws.lookup e.1 = some e.2)
    (hn : ∀ e ∈ unchanged, ∀ t, e.2 = some t → ws.lookup e.1 = some t)
    (hcov : ∀ p t, ws.lookup p = some t → p ∈ updated.map (·.1) ∨ p ∈ unchanged.map (·.1)) :
    ∀ p, (fromChanges ws.lookup updated unchanged).lookup p = ws.lookup p := by
  intro p
  rw [lookup_fromChanges_eq hu hn]
  split
  · rfl
  · next h =>
    cases hw : ws.lookup p with
    | none => rfl
    | some t => exact absurd (hcov p t hw) h

/-- two well-formed dictionaries that bind the same paths to the same values have the same items -/
theorem perm_of_lookup_eq (a b : Dict) (ha : AList.WF a) (hb : AList.WF b) (h : ∀ p, a.lookup p = b.lookup p) : a ~ b :=
  AList.perm_of_lookup_eq ha hb h

/-- **C10: the link record matches the resulting workspace.**  Under the hypotheses of `fromChanges_lookup`, what checkout
    tokenises for the record is, item for item, what a walk of the directory tokenises afterwards. -/
theorem record_token_matches (ws : Dict) (hws : AList.WF ws) (updated : List (Path × Mtime)) (unchanged : List (Path × Option Mtime))
    (hu : ∀ e ∈ updated, ws.lookup e.1 = some e.2)
    (hn : ∀ e ∈ unchanged, ∀ t, e.2 = some t → ws.lookup e.1 = some t)
    (hcov : ∀ p t, ws.lookup p = some t → p ∈ updated.map (·.1) ∨ p ∈ unchanged.map (·.1)) :
    canon (fromChanges ws.lookup updated unchanged) = canon ws := by
  have hw := wf_fromChanges ws.lookup updated unchanged
  have hp := perm_of_lookup_eq _ ws hw hws (fromChanges_lookup ws updated unchanged hu hn hcov)
  unfold canon
  exact Tree.sortByFst_perm _ _ hp hw

/-- the hypotheses are met: two files rewritten, one unchanged with recorded metadata, one unchanged without, and one
    listed both as rewritten and as unchanged (the first binding wins) -/
def exWs : Dict := [(['a'], 5), (['b'], 6), (['c'], 7), (['d'], 8)]

example : canon (fromChanges exWs.lookup [(['b'], 6), (['a'], 5)] [(['c'], some 7), (['d'], none), (['a'], some 5)]) = canon exWs :=
  record_token_matches exWs (by decide) _ _ (by decide) (by decide) (by
    intro p t h
    have hm := AList.mem_of_lookup h
    simp only [exWs, mem_cons, Prod.mk.injEq, mem_nil_iff, or_false] at hm
    rcases hm with ⟨rfl, _⟩ | ⟨rfl, _⟩ | ⟨rfl, _⟩ | ⟨rfl, _⟩ <;> decide)

end DvcData.LinkRecord

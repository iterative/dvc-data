import DvcData.Proofs.Tree
import DvcData.Proofs.JsonParse
/-!
# C03 — a directory's identifier is a canonical, deterministic function of its contents
-/
namespace DvcData.Tree
open DvcData Path Json MetaInfo List

/-- **(a) insertion / walk order does not matter.** Two `_dict`s with the same entries in any
    order serialise to the same bytes (with or without metadata), hence get the same identifier. -/
theorem asBytes_perm (w : Bool) (t1 t2 : Tree) (hp : t1 ~ t2) (hwf : AList.WF t1)
    (hok : ∀ e ∈ t1, KeyOK e.1) : asBytes w t1 = asBytes w t2 := by
  unfold asBytes
  rw [asList_perm w t1 t2 hp hwf hok]

theorem digest_perm (H : List Char → Str) (t1 t2 : Tree) (hp : t1 ~ t2) (hwf : AList.WF t1)
    (hok : ∀ e ∈ t1, KeyOK e.1) : digest H t1 = digest H t2 := by
  unfold digest; rw [asBytes_perm false t1 t2 hp hwf hok]

/-- **(b) the identifier ignores file metadata.** -/
theorem digest_ignores_meta (H : List Char → Str) (t : Tree) : digest H (stripMeta t) = digest H t := by
  unfold digest asBytes; rw [asList_stripMeta]

/-- the (relpath, hash-dict) pairs a tree serialises -/
def pairs (t : Tree) : List (List Char × JObj) := t.map fun e => (joinC e.1, hiToDict e.2.2)

/-- recover the pair from a rendered (key-sorted) entry -/
def pairOfDict (d : JObj) : List Char × JObj :=
  ((match d.lookup relpathKey with | some (.str s) => s | _ => []), d.erase relpathKey)

/-- the hash algorithm is not literally called "relpath" -/
def HashNameOK (h : Option HashInfo) : Prop := ∀ n v, hiToDict h = [(n, v)] → n ≠ relpathKey

theorem pairOfDict_entry (e : Key × TVal) (hn : HashNameOK e.2.2) :
    pairOfDict (sortKeys (entryDict false e)) = (joinC e.1, hiToDict e.2.2) := by
  obtain ⟨k, m, h⟩ := e
  have hp : sortKeys (entryDict false (k, (m, h))) ~ entryDict false (k, (m, h)) := mergeSort_perm _ _
  -- without metadata the dict is built by `set`s from `[]` (the `if withMeta` of `entryDict` reduces), so no key is bound twice
  have hwf : AList.WF (entryDict false (k, (m, h))) := AList.wf_set _ _ _ (AList.wf_foldl_set _ _ AList.wf_nil)
  -- hence the relpath is found wherever sorting has put it
  have h1 : AList.lookup (sortKeys (entryDict false (k, (m, h)))) relpathKey = some (.str (joinC k)) := by
    rw [← AList.lookup_perm hp.symm hwf, entryDict, AList.lookup_set, if_pos rfl]
  -- and what else there is, is the at most one hash item, in the only order it can have
  have h2 : AList.erase (sortKeys (entryDict false (k, (m, h)))) relpathKey = hiToDict h := by
    -- `erase` is this filter; `hf` moves it to the unsorted dict, where evaluation leaves the hash item(s)
    unfold AList.erase
    have hf := hp.filter fun p => p.1 ≠ relpathKey
    rcases hiToDict_cases h with h0 | ⟨n, v, h0⟩
    · rw [h0]
      -- the `simp` proves `(entryDict false (k, (m, h))).filter (fun p => p.1 ≠ relpathKey) = []`
      exact perm_nil.mp (hf.trans (Perm.of_eq (by simp [entryDict, h0, AList.set])))
    · have hne : n ≠ relpathKey := hn n _ h0
      rw [h0]
      -- here it proves `(entryDict false (k, (m, h))).filter (fun p => p.1 ≠ relpathKey) = [(n, .str v)]`
      exact perm_singleton.mp (hf.trans (Perm.of_eq (by simp [entryDict, h0, AList.set, hne])))
  simp only [pairOfDict, h1, h2]

/-- **(c) two different sets never serialise to the same bytes**: equal listings (bytes) imply
    the same multiset of (relpath, hash) pairs. -/
theorem asBytes_injective (t1 t2 : Tree) (hn1 : ∀ e ∈ t1, HashNameOK e.2.2)
    (hn2 : ∀ e ∈ t2, HashNameOK e.2.2) (h : asBytes false t1 = asBytes false t2) :
    pairs t1 ~ pairs t2 := by
  -- the pairs can be read off the parsed listing, entry by entry
  have key : ∀ t : Tree, (∀ e ∈ t, HashNameOK e.2.2) →
      ((asList false t).map sortKeys).map pairOfDict ~ pairs t := by
    intro t hn
    obtain ⟨es, hp, he⟩ := asList_eq_map false t
    rw [he, map_map, map_map]
    exact (Perm.of_eq (map_congr_left fun e hm => pairOfDict_entry e (hn e (hp.mem_iff.mp hm)))).trans (hp.map _)
  have a := key t1 hn1
  rw [renderList_injective _ _ h] at a
  exact a.symm.trans (key t2 hn2)

/-- **(d) serialising and re-parsing a listing is the identity** (on the key-sorted objects that
    `json.dumps(sort_keys=True)` writes) -/
theorem parse_asBytes (w : Bool) (t : Tree) :
    parseList (asBytes w t) = some ((asList w t).map sortKeys) :=
  parseList_renderList _

/-- a tree as staging builds it from a map of files: one entry per file, hash of its content -/
def buildTree {β : Type} (f : β → TVal) (files : List (Key × β)) : Tree := files.map fun e => (e.1, f e.2)

/-- the files below a prefix, re-rooted: what staging the sub-directory directly sees -/
def subFiles {β : Type} (files : List (Key × β)) (pfx : Key) : List (Key × β) :=
  files.filterMap fun e => match stripPrefix pfx e.1 with
    | some k => if k = [] then none else some (k, e.2)
    | none => none

/-- **(e) the object obtained for a sub-directory of a tree equals the object built directly from
    that sub-directory** (same entries, hence same bytes and identifier) -/
theorem subtree_eq_direct {β : Type} (f : β → TVal) (files : List (Key × β)) (pfx : Key) :
    subtree (buildTree f files) pfx = buildTree f (subFiles files pfx) := by
  -- both sides are one `filterMap` over `files`
  rw [subtree, buildTree, buildTree, subFiles, filterMap_map, map_filterMap]
  congr 1
  funext e
  simp only [Function.comp_apply]
  cases stripPrefix pfx e.1 with
  | none => rfl
  | some k => by_cases hk : k = [] <;> simp [hk]

/-! non-vacuity -/
example : AList.WF ([([['a']], (none, none)), ([['d'], ['b']], (none, none))] : Tree) := by decide
example : KeyOK [['d'], ['b', ' ', 'c']] := by decide

end DvcData.Tree

import DvcData.Model.Serialize
import DvcData.Proofs.Tree
/-!
# C20 — index and entry serialisation round-trips
-/
namespace DvcData.MetaInfo
open DvcData Json AList

theorem lookup_optStr (k' k : Str) (o : Option Str) :
    lookup (optStr k' o) k = if k' = k then (normStr o).map .str else none := by
  cases o with
  | none => simp [optStr, normStr]
  | some s => cases s <;> simp [optStr, normStr, lookup_cons]

theorem lookup_optNat (k' k : Str) (o : Option Nat) :
    lookup (optNat k' o) k = if k' = k then o.map JVal.int else none := by
  cases o <;> simp [optNat, lookup_cons]

theorem lookup_optTrue (k' k : Str) (b : Bool) :
    lookup (optTrue k' b) k = if k' = k ∧ b = true then some (.bool true) else none := by
  cases b <;> simp [optTrue, lookup_cons]

/-- what `to_dict` binds a key to: the first of its nine optional items that carries the key -/
theorem lookup_toDict (m : Meta) (k : Str) : lookup m.toDict k =
    ((((((((if kIsdir = k ∧ m.isdir = true then some (.bool true) else none).or
      (if kSize = k then m.size.map .int else none)).or
      (if kNfiles = k then m.nfiles.map .int else none)).or
      (if kIsexec = k ∧ m.isexec = true then some (.bool true) else none)).or
      (if kVersionId = k then (normStr m.versionId).map .str else none)).or
      (if kEtag = k then (normStr m.etag).map .str else none)).or
      (if kChecksum = k then (normStr m.checksum).map .str else none)).or
      (if kMd5 = k then (normStr m.md5).map .str else none)).or
      (if kRemote = k then (normStr m.remote).map .str else none) := by
  simp only [Meta.toDict, lookup_append, lookup_optTrue, lookup_optNat, lookup_optStr]

/-! Field by field. At a concrete key every test in `lookup_toDict` is decided by evaluation, and what is left
    is the one item with that key. -/
section
variable (m : Meta)

theorem get_isdir : getBool m.toDict kIsdir = m.isdir := by
  rw [getBool, lookup_toDict]; cases m.isdir <;> rfl
theorem get_isexec : getBool m.toDict kIsexec = m.isexec := by
  rw [getBool, lookup_toDict]; cases m.isexec <;> rfl
theorem get_size : getNat m.toDict kSize = m.size := by
  rw [getNat, lookup_toDict]; cases m.size <;> rfl
theorem get_nfiles : getNat m.toDict kNfiles = m.nfiles := by
  rw [getNat, lookup_toDict]; cases m.nfiles <;> rfl
theorem get_inode : getNat m.toDict kInode = none := by
  rw [getNat, lookup_toDict]; rfl
theorem get_mtime : getNat m.toDict kMtime = none := by
  rw [getNat, lookup_toDict]; rfl
theorem get_versionId : getStr m.toDict kVersionId = normStr m.versionId := by
  rw [getStr, lookup_toDict]; cases normStr m.versionId <;> rfl
theorem get_etag : getStr m.toDict kEtag = normStr m.etag := by
  rw [getStr, lookup_toDict]; cases normStr m.etag <;> rfl
theorem get_checksum : getStr m.toDict kChecksum = normStr m.checksum := by
  rw [getStr, lookup_toDict]; cases normStr m.checksum <;> rfl
theorem get_md5 : getStr m.toDict kMd5 = normStr m.md5 := by
  rw [getStr, lookup_toDict]; cases normStr m.md5 <;> rfl
theorem get_remote : getStr m.toDict kRemote = normStr m.remote := by
  rw [getStr, lookup_toDict]; cases normStr m.remote <;> rfl
end

/-- **Meta**: reading back what `to_dict` wrote gives the metadata on its serialised fields
    (falsy strings read back as `None`; inode/mtime are not serialised) -/
theorem meta_roundtrip (m : Meta) : Meta.fromDict (Meta.toDict m) = Meta.norm m := by
  simp only [Meta.fromDict, get_isdir, get_isexec, get_size, get_nfiles, get_inode, get_mtime,
    get_versionId, get_etag, get_checksum, get_md5, get_remote]
  rfl

theorem optStr_normStr (k : Str) (o : Option Str) : optStr k (normStr o) = optStr k o := by
  cases o with
  | none => rfl
  | some s => cases s <;> rfl

/-- ... and nothing that is serialised was lost: writing the read-back metadata gives the same dict -/
theorem meta_toDict_norm (m : Meta) : Meta.toDict (Meta.norm m) = Meta.toDict m := by
  simp only [Meta.toDict, Meta.norm, optStr_normStr]

theorem meta_dict_roundtrip (m : Meta) : Meta.toDict (Meta.fromDict (Meta.toDict m)) = Meta.toDict m := by
  rw [meta_roundtrip, meta_toDict_norm]

/-- a metadata object without falsy strings and without inode/mtime is read back exactly -/
theorem meta_roundtrip_exact (m : Meta) (h : Meta.norm m = m) : Meta.fromDict (Meta.toDict m) = m := by
  rw [meta_roundtrip, h]

/-- the keys `Meta.from_dict` reads -/
def metaKeys : List Str :=
  [kIsdir, kSize, kNfiles, kIsexec, kVersionId, kEtag, kChecksum, kMd5, kInode, kMtime, kRemote]

/-- ... and it reads nothing else -/
theorem fromDict_congr {d d' : JObj} (h : ∀ k ∈ metaKeys, lookup d k = lookup d' k) :
    Meta.fromDict d = Meta.fromDict d' := by
  simp only [metaKeys, List.forall_mem_cons] at h
  obtain ⟨h1, h2, h3, h4, h5, h6, h7, h8, h9, h10, h11, _⟩ := h
  simp only [Meta.fromDict, getBool, getNat, getStr, h1, h2, h3, h4, h5, h6, h7, h8, h9, h10, h11]

theorem fromDict_set_md5 (d : JObj) (v : Str) :
    Meta.fromDict (d.set kMd5 (.str v)) = { Meta.fromDict d with md5 := some v } := by
  -- `kMd5` is one of the eleven keys and differs from the other ten
  simp +decide only [Meta.fromDict, getBool, getNat, getStr, lookup_set, ite_true, ite_false]

/-- **HashInfo**: `from_dict(to_dict(h))` succeeds, and what it gives serialises as `h` does -/
theorem hashinfo_roundtrip (h : HashInfo) :
    ∃ h', HashInfo.fromDict (HashInfo.toDict h) = some h' ∧ HashInfo.toDict h' = HashInfo.toDict h := by
  -- `to_dict` gives nothing, read back as the empty hash, or the one item of a hash that is read back as it is
  rcases h.toDict_cases with h0 | ⟨n, v, h1, hne⟩
  · exact ⟨{}, by rw [h0]; rfl, by rw [h0]; rfl⟩
  · exact ⟨{ name := some n, value := some v }, by rw [h1]; rfl, by rw [h1]; simp only [HashInfo.toDict, hne]; rfl⟩

/-- a well-formed hash (non-empty name and value) is read back exactly -/
theorem hashinfo_roundtrip_exact (n v : Str) (hn : n ≠ []) (hv : v ≠ []) :
    HashInfo.fromDict (HashInfo.toDict { name := some n, value := some v }) = some { name := some n, value := some v } := by
  obtain ⟨_, _, rfl⟩ := List.exists_cons_of_ne_nil hn
  obtain ⟨_, _, rfl⟩ := List.exists_cons_of_ne_nil hv
  rfl

theorem toDict_of_not_truthy (h : HashInfo) (ht : h.truthy = false) : HashInfo.toDict h = [] := by
  obtain ⟨name, value⟩ := h
  cases name <;> cases value <;> simp_all [HashInfo.toDict, HashInfo.truthy]

/-- the metadata half of an entry: an empty `to_dict` is read back as no metadata at all, which has the same
    serialised form -/
theorem metaOfDict?_toDict (mt : Option Meta) :
    ((metaOfDict? (mt.map Meta.toDict)).map Meta.toDict).getD [] = (mt.map Meta.toDict).getD [] := by
  cases mt with
  | none => rfl
  | some m =>
    simp only [Option.map_some, metaOfDict?]
    split
    · next hem => exact (List.isEmpty_iff.mp hem).symm
    · simp only [Option.map_some, Option.getD_some, meta_dict_roundtrip]

/-- **Entry**: `from_dict(to_dict(e))` succeeds and has the same serialisable projection
    (metadata dict, hash dict, loaded flag) -/
theorem entry_roundtrip (e : Entry) :
    ∃ e', Entry.fromDict (Entry.toDict e) = some e' ∧ e'.proj = e.proj := by
  obtain ⟨mt, hi, loaded⟩ := e
  -- whatever becomes of the hash, the metadata and the flag come back as `metaOfDict?_toDict` says
  have hm := metaOfDict?_toDict mt
  -- the hash is dropped when it is absent, falsy, or has an empty `to_dict`: in each case its projection is `[]`
  have none_case : ∀ ho, ({ mt := mt, hashInfo := ho, loaded := loaded } : Entry).proj.2.1 = [] →
      ({ mt := metaOfDict? (mt.map Meta.toDict), hashInfo := none, loaded := loaded } : Entry).proj =
        ({ mt := mt, hashInfo := ho, loaded := loaded } : Entry).proj := by
    intro ho h0
    simp only [Entry.proj] at h0 ⊢
    rw [hm, h0]
  cases hi with
  | none => exact ⟨_, rfl, none_case none rfl⟩
  | some h =>
    cases ht : h.truthy with
    | false =>
      refine ⟨_, ?_, none_case (some h) (toDict_of_not_truthy h ht)⟩
      simp only [Entry.toDict, ht, Entry.fromDict]; rfl
    | true =>
      cases hemp : (HashInfo.toDict h).isEmpty with
      | true =>
        refine ⟨_, ?_, none_case (some h) (List.isEmpty_iff.mp hemp)⟩
        simp only [Entry.toDict, ht, Entry.fromDict, hemp, if_true]
      | false =>
        obtain ⟨h', hf, hd⟩ := hashinfo_roundtrip h
        refine ⟨{ mt := metaOfDict? (mt.map Meta.toDict), hashInfo := some h', loaded := loaded }, ?_, ?_⟩
        · simp only [Entry.toDict, ht, Entry.fromDict, hemp, if_true, hf]; rfl
        · simp only [Entry.proj, hm, hd]

end DvcData.MetaInfo

namespace DvcData.Serialize
open DvcData Path MetaInfo

/-- Both stored forms of an index write `(enc key, to_dict entry)` item by item and read `(dec key, from_dict dict)`
    back: what returns has the same keys wherever `dec` undoes `enc`, and entry for entry the same projection. -/
theorem index_roundtrip {κ : Type} (enc : Key → κ) (dec : κ → Key) (idx : Index) (hk : ∀ p ∈ idx, dec (enc p.1) = p.1) :
    ∃ idx', (idx.map fun p => (enc p.1, p.2.toDict)).mapM
        (fun p => (Entry.fromDict p.2).map fun e => (dec p.1, e)) = some idx' ∧
      idx'.map (·.1) = idx.map (·.1) ∧ idx'.map (·.2.proj) = idx.map (·.2.proj) := by
  induction idx with
  | nil => exact ⟨[], rfl, rfl, rfl⟩
  | cons p r ih =>
    obtain ⟨e', he, hp⟩ := entry_roundtrip p.2
    obtain ⟨r', hr, hf1, hf2⟩ := ih (fun q hq => hk q (List.mem_cons_of_mem _ hq))
    refine ⟨(p.1, e') :: r', ?_, by simp [hf1], by simp [hf2, hp]⟩
    simp only [List.map_cons, List.mapM_cons, he, Option.map_some, hk p List.mem_cons_self, hr]
    rfl

/-- **index, '/'-joined forms (JSON file, key-value DB)**: reading back what was written gives the
    same keys and, for every entry, the same serialisable projection. -/
theorem index_roundtrip_joined (idx : Index) (hok : ∀ p ∈ idx, KeyOK p.1) :
    ∃ idx', readJoined (writeJoined idx) = some idx' ∧
      idx'.map (·.1) = idx.map (·.1) ∧ idx'.map (·.2.proj) = idx.map (·.2.proj) :=
  index_roundtrip joinC splitC idx fun p hp => splitC_joinC p.1 (hok p hp)

/-- **index, SQLite-backed trie (after commit/close/reopen)**: any key, including the empty root -/
theorem index_roundtrip_trie (idx : Index) :
    ∃ idx', readTrie (writeTrie idx) = some idx' ∧
      idx'.map (·.1) = idx.map (·.1) ∧ idx'.map (·.2.proj) = idx.map (·.2.proj) :=
  index_roundtrip id id idx fun _ _ => rfl

/-- keys survive the textual form -/
theorem key_roundtrip (k : Key) (h : KeyOK k) : splitC (joinC k) = k := splitC_joinC k h

/-! non-vacuity -/
example : KeyOK [['d', 'i', 'r'], ['é', ' ', 'x']] := by decide
example : (Entry.toDict { mt := some {}, hashInfo := some { name := some kMd5, value := some ['a', '.', 'd', 'i', 'r'] }, loaded := some false }).mt = some [] := by decide

end DvcData.Serialize

/-! ### a directory listing entry read back under its hash name -/
namespace DvcData.Tree
open DvcData Path Json MetaInfo AList

theorem entryDict_md5 (w : Bool) (k : Key) (m : Option Meta) (v : Str) (hv : v.isEmpty = false) :
    entryDict w (k, (m, some { name := some md5Name, value := some v })) =
      AList.set (AList.set (if w then (match m with | some m => m.toDict | none => []) else []) md5Name (.str v))
        relpathKey (.str (joinC k)) := by
  have h : hiToDict (some { name := some md5Name, value := some v }) = [(md5Name, .str v)] := by
    -- `hv` settles `truthy` and the test on the value; `+decide` the two closed tests on the name:
    -- `some md5Name = some dos2unixName` (false) and `md5Name.isEmpty` (false)
    simp +decide [hiToDict, HashInfo.truthy, HashInfo.toDict, hv]
  simp only [entryDict, h, List.foldl_cons, List.foldl_nil]
  rfl

theorem entryOfDict_md5 (d : JObj) (rp : Str) (h : lookup d relpathKey = some (.str rp)) :
    entryOfDict (some md5Name) d =
      some (splitC rp, (some (Meta.fromDict (d.erase relpathKey)),
        some { name := some md5Name, value := (Meta.fromDict (d.erase relpathKey)).md5 })) := by
  simp only [entryOfDict, h]
  -- left for `rfl`: the tests `md5Name = dos2unixName` (false) and `md5Name = md5Name` of `entryOfDict`, on closed
  -- character lists, which evaluation decides (`simp only` has no lemma for them)
  rfl

/-- of the two items `as_list` adds to the metadata, hash and relpath, only `md5` is a key `from_dict` reads -/
theorem fromDict_listing_rest (d : JObj) (v rp : Str) :
    Meta.fromDict (((d.set md5Name (.str v)).set relpathKey (.str rp)).erase relpathKey) =
      { Meta.fromDict d with md5 := some v } := by
  rw [← fromDict_set_md5]
  refine fromDict_congr fun k hk => ?_
  have hne : relpathKey ≠ k := fun e => absurd (e ▸ hk) (by decide)
  rw [lookup_erase_ne hne, lookup_set, if_neg hne]
  rfl

/-- what `from_list` makes of an entry `as_list` wrote: the hash, and as metadata either the serialised fields
    (written with metadata) or nothing, with the hash value mirrored into `md5` -/
def readBack (w : Bool) (tv : TVal) : TVal :=
  (some (match w, tv.1 with
    | true, some m => { Meta.norm m with md5 := tv.2.bind (·.value) }
    | _, _ => { md5 := tv.2.bind (·.value) }), tv.2)

/-- entries a directory object holds: a well-formed key and a non-empty md5 value -/
def GoodE (e : Key × TVal) : Prop :=
  KeyOK e.1 ∧ ∃ v : Str, v.isEmpty = false ∧ e.2.2 = some { name := some md5Name, value := some v }

theorem entry_readBack (w : Bool) (e : Key × TVal) (h : GoodE e) :
    entryOfDict (some md5Name) (entryDict w e) = some (e.1, readBack w e.2) := by
  obtain ⟨k, m, hi⟩ := e
  obtain ⟨hk, v, hv, rfl⟩ := h
  rw [entryDict_md5 w k m v hv, entryOfDict_md5 _ (joinC k) (by rw [lookup_set, if_pos rfl]), fromDict_listing_rest,
    splitC_joinC k hk]
  cases w with
  | false => rfl
  | true =>
    cases m with
    | none => rfl
    | some m => simp only [if_true, meta_roundtrip]; rfl

/-- **listing round trip (one entry)**: what `as_list` writes for an entry with an md5 hash, `from_list` reads
    back as the same key and the same hash (mirrored into the metadata field of that name) -/
theorem listing_entry_roundtrip (k : Key) (hk : KeyOK k) (v : Str) (hv : v.isEmpty = false) (m : Option Meta) :
    entryOfDict (some md5Name) (entryDict false (k, (m, some { name := some md5Name, value := some v }))) =
      some (k, (some { md5 := some v }, some { name := some md5Name, value := some v })) :=
  entry_readBack false _ ⟨hk, v, hv, rfl⟩

/-- **listing round trip (one entry, written with metadata)**: `from_list` reads back the key, the hash, and the
    serialised metadata with the hash mirrored into its `md5` field -/
theorem listing_entry_roundtrip_meta (k : Key) (hk : KeyOK k) (v : Str) (hv : v.isEmpty = false) (m : Meta) :
    entryOfDict (some md5Name) (entryDict true (k, (some m, some { name := some md5Name, value := some v }))) =
      some (k, (some { Meta.norm m with md5 := some v }, some { name := some md5Name, value := some v })) :=
  entry_readBack true _ ⟨hk, v, hv, rfl⟩

theorem foldlM_parse (hn : Option Str) (g : JObj → Key × TVal) : ∀ (ds : List JObj) (t0 : Tree),
    (∀ d ∈ ds, entryOfDict hn d = some (g d)) →
    ds.foldlM (fun t d => (entryOfDict hn d).map fun e => AList.set t e.1 e.2) t0 =
      some (ds.foldl (fun t d => AList.set t (g d).1 (g d).2) t0) := by
  intro ds
  induction ds with
  | nil => intro t0 _; rfl
  | cons d r ih =>
    intro t0 h
    simp only [List.foldlM_cons, List.foldl_cons, h d (by simp), Option.map_some, Option.bind_eq_bind, Option.bind_some]
    exact ih _ (fun x hx => h x (List.mem_cons_of_mem _ hx))

theorem lookup_foldl_set_nodup : ∀ (es : List (Key × TVal)) (t0 : Tree) (k : Key), (AList.keys es).Nodup →
    AList.lookup (es.foldl (fun t e => AList.set t e.1 e.2) t0) k =
      match AList.lookup es k with
      | some v => some v
      | none => AList.lookup t0 k := by
  intro es t0 k hnd
  -- the last write wins, and with distinct keys the last binding of a key is also its first
  rw [AList.lookup_foldl_set, ← AList.lookup_perm (List.reverse_perm es).symm hnd k]
  cases AList.lookup es k <;> rfl

/-- **C20 (directory listing).** For every directory object whose keys are well-formed and distinct and whose
    entries carry non-empty md5 values, reading back what `as_list` wrote — with or without metadata, in
    the sorted order `as_list` uses — succeeds and gives a tree that binds exactly the same keys, each to its
    hash and to the metadata that is serialised -/
theorem listing_roundtrip (w : Bool) (t : Tree) (hwf : AList.WF t) (hg : ∀ e ∈ t, GoodE e) :
    ∃ t', fromList (some md5Name) (asList w t) = some t' ∧
      ∀ k, AList.lookup t' k = (AList.lookup t k).map (readBack w) := by
  -- the listing is the dicts of the entries in another order, and each dict parses to its entry read back
  obtain ⟨es, hp, he⟩ := asList_eq_map w t
  have hwf' : AList.WF es := (hp.map _).nodup_iff.mpr hwf
  -- `foldlM_parse` wants a total function; the default is never reached, `g` is only applied to dicts that parse
  let g : JObj → Key × TVal := fun d => (entryOfDict (some md5Name) d).getD ([], (none, none))
  have hge : ∀ e ∈ es, g (entryDict w e) = (e.1, readBack w e.2) := fun e he => by
    simp only [g, entry_readBack w e (hg e (hp.mem_iff.mp he)), Option.getD_some]
  have hparse : ∀ d ∈ asList w t, entryOfDict (some md5Name) d = some (g d) := by
    rw [he]
    intro d hd
    obtain ⟨e, hm, rfl⟩ := List.mem_map.mp hd
    rw [hge e hm, entry_readBack w e (hg e (hp.mem_iff.mp hm))]
  refine ⟨_, foldlM_parse (some md5Name) g (asList w t) [] hparse, fun k => ?_⟩
  -- so `from_list` folds `set` over the entries read back, whose keys are still distinct
  have hmap : (asList w t).map g = es.map fun e => (e.1, readBack w e.2) := by
    rw [he, List.map_map]; exact List.map_congr_left hge
  have hnd : (AList.keys (es.map fun e => (e.1, readBack w e.2))).Nodup := by
    rw [AList.keys, List.map_map]; exact hwf'
  -- `foldl_map` read backwards: the fold of `foldlM_parse`, whose step applies the local `g` (`f := g`) and then sets, becomes
  -- the fold of the plain step `set t e.1 e.2` (the lemma's own `g :=`) over `(asList w t).map g`, which `hmap` knows
  rw [← List.foldl_map (f := g) (g := fun t (e : Key × TVal) => AList.set t e.1 e.2), hmap, lookup_foldl_set_nodup _ [] k hnd,
    AList.lookup_map (fun _ => readBack w), AList.lookup_perm hp hwf']
  cases AList.lookup t k <;> rfl

/-! non-vacuity: a two-entry directory object (one entry with metadata, one nested key) meets the hypotheses -/
def exTree : Tree :=
  [([['s', 'u', 'b'], ['b']], (some { size := some 3, isexec := true, etag := some [] }, some { name := some md5Name, value := some ['1', '2'] })),
   ([['a']], (none, some { name := some md5Name, value := some ['3', '4'] }))]

example : AList.WF exTree := by decide
example : ∀ e ∈ exTree, GoodE e := by
  intro e he
  simp only [exTree, List.mem_cons, List.mem_nil_iff, or_false] at he
  rcases he with rfl | rfl
  · exact ⟨by decide, ['1', '2'], rfl, rfl⟩
  · exact ⟨by decide, ['3', '4'], rfl, rfl⟩
example : readBack true (some { size := some 3, isexec := true, etag := some [] }, some { name := some md5Name, value := some ['1', '2'] }) =
    (some { size := some 3, isexec := true, md5 := some ['1', '2'] }, some { name := some md5Name, value := some ['1', '2'] }) := by decide

end DvcData.Tree

import DvcData.Model.IndexCheckout
import DvcData.Props.C08
/-!
# C09 — index checkout converges to the target from any workspace state

The directory-removal phase (`rmdir_all`), and what `compare` schedules: one case analysis of `stepChange`
(`stepChange_ind`, `compare_ind`) for what may be scheduled, `compare_complete` for what must be.
-/
namespace DvcData.IndexCheckout
open DvcData Path MetaInfo IndexDiff List

/-! ### directories scheduled for deletion really go away (the F4 repair) -/

theorem rmdir_lookup_ne (w : Ws) (k k2 : Key) (h : k ≠ k2) : (rmdir w k).lookup k2 = w.lookup k2 := by
  fun_cases rmdir w k
  · exact AList.lookup_erase_ne h
  · rfl

theorem rmdir_sub (w : Ws) (k : Key) (e : Key × Node) (h : e ∈ rmdir w k) : e ∈ w := by
  revert h
  fun_cases rmdir w k
  · exact AList.mem_of_mem_erase
  · exact id

theorem rmdir_none_stays (w : Ws) (k k2 : Key) (h : w.lookup k2 = none) : (rmdir w k).lookup k2 = none := by
  by_cases e : k = k2
  · subst e
    fun_cases rmdir w k
    · exact AList.lookup_erase_self w k
    · exact h
  · rw [rmdir_lookup_ne w k k2 e]; exact h

theorem foldl_rmdir_none_stays (l : List Key) : ∀ (w : Ws) (k2 : Key), w.lookup k2 = none →
    (l.foldl rmdir w).lookup k2 = none :=
  fun _ k2 h => List.foldlRecOn l rmdir h fun w hw a _ => rmdir_none_stays w a k2 hw

theorem foldl_rmdir_sub {l : List Key} {w : Ws} {e : Key × Node} (h : e ∈ l.foldl rmdir w) : e ∈ w :=
  List.foldlRecOn (motive := fun w' => e ∈ w' → e ∈ w) l rmdir id (fun w' hw' a _ he => hw' (rmdir_sub w' a e he)) h

theorem rmdir_removes (w : Ws) (k : Key) (hnc : ∀ e ∈ w, properPrefix k e.1 = false) :
    (rmdir w k).lookup k ≠ some .dir := by
  fun_cases rmdir w k
  · rw [AList.lookup_erase_self]; exact fun h => nomatch h
  · next hc =>
    intro hd
    refine hc ⟨hd, ?_⟩
    simp only [Bool.not_eq_true', List.any_eq_false]
    intro e he; simpa using hnc e he

theorem rmdir_wf (w : Ws) (k : Key) (h : AList.WF w) : AList.WF (rmdir w k) := by
  fun_cases rmdir w k
  · exact AList.wf_erase w k h
  · exact h

theorem mem_deepestFirst (ds : List Key) (d : Key) : d ∈ deepestFirst ds ↔ d ∈ ds := List.mem_mergeSort

theorem deepestFirst_sorted (ds : List Key) : (deepestFirst ds).Pairwise fun a b => b.length ≤ a.length :=
  -- `mergeSort` sorts by any transitive and total order; the two arguments say that "at least as long" is one
  (List.pairwise_mergeSort (le := fun (a b : Key) => decide (b.length ≤ a.length))
    (fun a b c h1 h2 => by simp only [decide_eq_true_eq] at *; omega)
    (fun a b => by simp only [← Bool.decide_or, decide_eq_true_eq]; omega) ds).imp fun h => by simpa using h

/-- **deepest-first removal**: if every node below a directory scheduled for deletion is itself a
    scheduled directory (the files below were removed by the previous phase), then after the
    deletion phase none of the scheduled keys is a directory of the workspace any more — for every
    nesting depth. -/
theorem rmdir_all (ds : List Key) (w : Ws) (hwf : AList.WF w)
    (hdesc : ∀ d ∈ ds, ∀ e ∈ w, properPrefix d e.1 = true → e.1 ∈ ds ∧ e.2 = .dir) :
    ∀ d ∈ ds, ((deepestFirst ds).foldl rmdir w).lookup d ≠ some .dir := by
  -- along a list sorted deepest first: a scheduled key that is not ahead in the list any more is no directory any more
  have key : ∀ (l : List Key) (w' : Ws),
      l.Pairwise (fun a b => b.length ≤ a.length) →
      AList.WF w' → (∀ e ∈ w', e ∈ w) →
      (∀ d ∈ ds, d ∈ l ∨ w'.lookup d ≠ some .dir) →
      ∀ d ∈ ds, (l.foldl rmdir w').lookup d ≠ some .dir := by
    intro l
    induction l with
    | nil => exact fun w' _ _ _ hdone d hd => (hdone d hd).resolve_left (by simp)
    | cons a r ih =>
      intro w' hp hwf' hsub hdone
      have hp' := List.pairwise_cons.mp hp
      refine ih (rmdir w' a) hp'.2 (rmdir_wf w' a hwf') (fun e he => hsub e (rmdir_sub w' a e he)) fun d hd => ?_
      by_cases hda : d = a
      · -- `a` is empty by now: a node below it would be a scheduled directory, still there, hence ahead in the
        -- list, hence not longer than `a`
        subst hda
        refine .inr (rmdir_removes w' d fun e he => ?_)
        cases hpp : properPrefix d e.1 with
        | false => rfl
        | true =>
          exfalso
          obtain ⟨hin, hdir⟩ := hdesc d hd e (hsub e he) hpp
          have hlen : d.length < e.1.length := by
            simp only [properPrefix, Bool.and_eq_true, decide_eq_true_eq] at hpp; exact hpp.2
          have hlk : w'.lookup e.1 = some .dir := hdir ▸ AList.lookup_of_mem hwf' he
          rcases hdone e.1 hin with h | h
          · rcases List.mem_cons.mp h with h' | h'
            · rw [h'] at hlen; exact Nat.lt_irrefl _ hlen
            · have := hp'.1 e.1 h'; omega
          · exact h hlk
      · exact (hdone d hd).imp (fun h => (List.mem_cons.mp h).resolve_left hda) fun h => by
          rwa [rmdir_lookup_ne w' a d (Ne.symm hda)]
  exact key (deepestFirst ds) w (deepestFirst_sorted ds) hwf (fun e he => he) fun d hd =>
    .inl ((mem_deepestFirst ds d).mpr hd)

section prims
variable (a : Actions) (p q : Key × Entry)

theorem addCreate_filesDelete : (addCreate a p).filesDelete = a.filesDelete := by
  fun_cases addCreate a p <;> rfl

theorem addCreate_dirsDelete : (addCreate a p).dirsDelete = a.dirsDelete := by
  fun_cases addCreate a p <;> rfl

theorem mem_addCreate_filesCreate :
    q ∈ (addCreate a p).filesCreate ↔ q ∈ a.filesCreate ∨ (q = p ∧ isDirE p.2 = false) := by
  fun_cases addCreate a p <;> simp [*]

theorem mem_addCreate_dirsCreate :
    q ∈ (addCreate a p).dirsCreate ↔ q ∈ a.dirsCreate ∨ (q = p ∧ isDirE p.2 = true) := by
  fun_cases addCreate a p <;> simp [*]

theorem mem_addCreate_filesChmod :
    q ∈ (addCreate a p).filesChmod ↔
      q ∈ a.filesChmod ∨ (q = p ∧ isDirE p.2 = false ∧ isExecE p.2 = true) := by
  fun_cases addCreate a p
  · simp [*]
  · simp only; split <;> simp [*]

theorem addDelete_filesCreate : (addDelete a p).filesCreate = a.filesCreate := by
  fun_cases addDelete a p <;> rfl

theorem addDelete_dirsCreate : (addDelete a p).dirsCreate = a.dirsCreate := by
  fun_cases addDelete a p <;> rfl

theorem addDelete_filesChmod : (addDelete a p).filesChmod = a.filesChmod := by
  fun_cases addDelete a p <;> rfl

theorem mem_addDelete_filesDelete :
    q ∈ (addDelete a p).filesDelete ↔ q ∈ a.filesDelete ∨ (q = p ∧ isDirE p.2 = false) := by
  fun_cases addDelete a p <;> simp [*]

theorem mem_addDelete_dirsDelete :
    q ∈ (addDelete a p).dirsDelete ↔ q ∈ a.dirsDelete ∨ (q = p ∧ isDirE p.2 = true) := by
  fun_cases addDelete a p <;> simp [*]

end prims

/-- `n` takes the place of `o`: content or kind differ, and they are not both directories (`stepChange` leaves a
    directory that stays one alone, whatever its hash) -/
def Replaced (o n : Entry) : Prop :=
  (o.hashInfo ≠ n.hashInfo ∨ isDirE o ≠ isDirE n) ∧ (isDirE o && isDirE n) = false

/-- only the executable bit of a file differs between `o` and `n` -/
def ChmodOnly (o n : Entry) : Prop :=
  o.hashInfo = n.hashInfo ∧ isDirE o = isDirE n ∧ isExecE o ≠ isExecE n ∧ isDirE n = false

/-- the case analysis of `stepChange`: at most a deletion of the old entry followed by a creation of the new one, or
    a `chmod` of the new one; the hypotheses of the three cases say exactly when -/
theorem stepChange_ind {P : Actions → Prop} {delete : Bool} {new : Option Index} {c : Change}
    (hcreate : ∀ b n, c.new = some n →
      (c.typ = .add ∨ c.typ = .modify ∧ ∃ o, c.old = some o ∧ Replaced o.2 n.2) →
      P b → P (addCreate b n))
    (hdelete : ∀ b o, c.old = some o →
      (c.typ = .delete ∧ delete = true ∧ (isDirE o.2 && newHasNode new o.1) = false ∨
        c.typ = .modify ∧ ∃ n, c.new = some n ∧ Replaced o.2 n.2) →
      P b → P (addDelete b o))
    (hchmod : ∀ b n, c.new = some n → (c.typ = .modify ∧ ∃ o, c.old = some o ∧ ChmodOnly o.2 n.2) →
      P b → P { b with filesChmod := b.filesChmod ++ [n] })
    {a : Actions} (h : P a) : P (stepChange delete new a c) := by
  fun_cases stepChange delete new a c
  -- each case hands over the matched sides (`o`, `n`), then `hn : c.new = some n`, `ho : c.old = some o`, `ht : c.typ = ..`,
  -- then the conditions of the `if`s on the way to the branch, outermost first
  case case1 n hn ht => exact hcreate a n hn (.inl ht) h  -- added
  case case4 o ho ht hd hk =>  -- deleted, deletion enabled, not an implicit directory of the target
    exact hdelete a o ho (.inl ⟨ht, by simpa using hd, by simpa using hk⟩) h
  case case6 o n hn ho ht hc hb =>  -- modified and replaced: delete the old entry, create the new one
    have hr : Replaced o.2 n.2 := ⟨hc, by simpa using hb⟩
    exact hcreate _ n hn (.inr ⟨ht, o, ho, hr⟩) (hdelete a o ho (.inr ⟨ht, n, hn, hr⟩) h)
  case case7 o n hn ho ht hc hx =>  -- modified in the executable bit only
    -- `hc : ¬(o.2.hashInfo ≠ n.2.hashInfo ∨ isDirE o.2 ≠ isDirE n.2)`: neither differs
    have hsame : o.2.hashInfo = n.2.hashInfo := Decidable.not_not.mp fun e => hc (.inl e)
    have hkind : isDirE o.2 = isDirE n.2 := Decidable.not_not.mp fun e => hc (.inr e)
    exact hchmod a n hn ⟨ht, o, ho, hsame, hkind, hx.1, by simpa using hx.2⟩ h
  -- nothing is scheduled: deleted with deletion off (2) or still an implicit directory (3), a directory that stays
  -- one (5), no difference that matters (8), any other kind of change (9)
  all_goals exact h

/-- `stepChange_ind` along the fold of `compare`, with the change's sides read as the entries the two indexes hold at
    its key: what holds of the empty lists and is kept by these three moves holds of what `compare` schedules -/
theorem compare_ind {P : Actions → Prop} (delete : Bool) (old new : Option Index) (h0 : P {})
    (hcreate : ∀ a k n, entryOf new k = some n →
      (diffEntry { cmp := .dirExec } (entryOf old k) (some n) = .add ∨
        diffEntry { cmp := .dirExec } (entryOf old k) (some n) = .modify ∧ ∃ o, entryOf old k = some o ∧
          Replaced o n) →
      P a → P (addCreate a (k, n)))
    (hdelete : ∀ a k o, entryOf old k = some o →
      (diffEntry { cmp := .dirExec } (some o) (entryOf new k) = .delete ∧ delete = true ∧
          (isDirE o && newHasNode new k) = false ∨
        diffEntry { cmp := .dirExec } (some o) (entryOf new k) = .modify ∧ ∃ n, entryOf new k = some n ∧
          Replaced o n) →
      P a → P (addDelete a (k, o)))
    (hchmod : ∀ a k n, entryOf new k = some n →
      (diffEntry { cmp := .dirExec } (entryOf old k) (some n) = .modify ∧ ∃ o, entryOf old k = some o ∧ ChmodOnly o n) →
      P a → P { a with filesChmod := a.filesChmod ++ [(k, n)] }) :
    P (compare delete old new) := by
  rw [compare, diff_eq_diffAt _ rfl]
  refine List.foldlRecOn _ _ h0 fun a ha c hc => ?_
  obtain ⟨k, ht, ho, hn, _⟩ := diffAt_sound _ old new _ _ c hc
  refine stepChange_ind (fun b p hp hr hb => ?_) (fun b p hp hr hb => ?_) (fun b p hp ⟨htm, p', hp', hcond⟩ => ?_) ha
  · obtain ⟨n, hne, rfl⟩ := side_eq_some hn hp
    refine hcreate b k n hne ?_ hb
    rw [← hne, ← ht]  -- the goal in terms of the change, as `hr` has it
    exact hr.imp_right fun ⟨htm, p', hp', hcond⟩ => by
      obtain ⟨o, hoe, rfl⟩ := side_eq_some ho hp'; exact ⟨htm, o, hoe, hcond⟩
  · obtain ⟨o, hoe, rfl⟩ := side_eq_some ho hp
    refine hdelete b k o hoe ?_ hb
    rw [← hoe, ← ht]
    exact hr.imp_right fun ⟨htm, p', hp', hcond⟩ => by
      obtain ⟨n, hne, rfl⟩ := side_eq_some hn hp'; exact ⟨htm, n, hne, hcond⟩
  · obtain ⟨n, hne, rfl⟩ := side_eq_some hn hp
    obtain ⟨o, hoe, rfl⟩ := side_eq_some ho hp'
    exact hchmod b k n hne ⟨by rw [← hne, ← ht]; exact htm, o, hoe, hcond⟩

/-! ### what `compare` schedules -/

/-- a change as the diff produces it: both sides are the entries at one and the same key -/
def Good (old new : Option Index) (c : Change) : Prop :=
  ∃ k', c.old = (entryOf old k').map (k', ·) ∧ c.new = (entryOf new k').map (k', ·)

/-- where the scheduled pairs come from: creations and chmods from the target, deletions from the old index and,
    without deletion enabled, only at keys the target holds -/
structure ActInv (delete : Bool) (old new : Option Index) (a : Actions) : Prop where
  creates : ∀ p, p ∈ a.filesCreate ∨ p ∈ a.dirsCreate ∨ p ∈ a.filesChmod → entryOf new p.1 = some p.2
  deletes : ∀ p, p ∈ a.filesDelete ∨ p ∈ a.dirsDelete → entryOf old p.1 = some p.2
  inTarget : delete = false → ∀ p, p ∈ a.filesDelete ∨ p ∈ a.dirsDelete → (entryOf new p.1).isSome = true

theorem addCreate_inv {delete : Bool} {old new : Option Index} {a : Actions} (p : Key × Entry)
    (h : ActInv delete old new a) (hp : entryOf new p.1 = some p.2) : ActInv delete old new (addCreate a p) := by
  refine ⟨fun q hq => ?_, ?_, ?_⟩
  · rw [mem_addCreate_filesCreate, mem_addCreate_dirsCreate, mem_addCreate_filesChmod] at hq
    rcases hq with (hq | ⟨rfl, _⟩) | (hq | ⟨rfl, _⟩) | (hq | ⟨rfl, _⟩)
    · exact h.creates q (.inl hq)
    · exact hp
    · exact h.creates q (.inr (.inl hq))
    · exact hp
    · exact h.creates q (.inr (.inr hq))
    · exact hp
  · rw [addCreate_filesDelete, addCreate_dirsDelete]; exact h.deletes
  · rw [addCreate_filesDelete, addCreate_dirsDelete]; exact h.inTarget

theorem addDelete_inv {delete : Bool} {old new : Option Index} {a : Actions} (p : Key × Entry)
    (h : ActInv delete old new a) (hp : entryOf old p.1 = some p.2)
    (ht : delete = false → (entryOf new p.1).isSome = true) : ActInv delete old new (addDelete a p) := by
  refine ⟨?_, fun q hq => ?_, fun hd q hq => ?_⟩
  · rw [addDelete_filesCreate, addDelete_dirsCreate, addDelete_filesChmod]; exact h.creates
  · rw [mem_addDelete_filesDelete, mem_addDelete_dirsDelete] at hq
    rcases hq with (hq | ⟨rfl, _⟩) | (hq | ⟨rfl, _⟩)
    · exact h.deletes q (.inl hq)
    · exact hp
    · exact h.deletes q (.inr hq)
    · exact hp
  · rw [mem_addDelete_filesDelete, mem_addDelete_dirsDelete] at hq
    rcases hq with (hq | ⟨rfl, _⟩) | (hq | ⟨rfl, _⟩)
    · exact h.inTarget hd q (.inl hq)
    · exact ht hd
    · exact h.inTarget hd q (.inr hq)
    · exact ht hd

theorem Good.entries {old new : Option Index} {c : Change} (hg : Good old new c) : ∃ k,
    (∀ o, c.old = some o → o.1 = k ∧ entryOf old k = some o.2) ∧
    (∀ n, c.new = some n → n.1 = k ∧ entryOf new k = some n.2) := by
  obtain ⟨k, ho, hn⟩ := hg
  refine ⟨k, fun p hp => ?_, fun p hp => ?_⟩
  · obtain ⟨e, he, rfl⟩ := side_eq_some ho hp; exact ⟨rfl, he⟩
  · obtain ⟨e, he, rfl⟩ := side_eq_some hn hp; exact ⟨rfl, he⟩

theorem chmod_inv {delete : Bool} {old new : Option Index} {a : Actions} (n : Key × Entry)
    (h : ActInv delete old new a) (hn : entryOf new n.1 = some n.2) :
    ActInv delete old new { a with filesChmod := a.filesChmod ++ [n] } := by
  refine ⟨fun q hq => ?_, h.deletes, h.inTarget⟩
  simp only [List.mem_append, List.mem_singleton] at hq
  rcases hq with hq | hq | hq | rfl
  · exact h.creates q (.inl hq)
  · exact h.creates q (.inr (.inl hq))
  · exact h.creates q (.inr (.inr hq))
  · exact hn

theorem stepChange_inv (delete : Bool) (old new : Option Index) (a : Actions) (c : Change)
    (hg : Good old new c) (h : ActInv delete old new a) : ActInv delete old new (stepChange delete new a c) := by
  obtain ⟨k, hold, hnew⟩ := hg.entries
  refine stepChange_ind (fun b n hn _ hb => ?_) (fun b o ho hr hb => ?_) (fun b n hn _ hb => ?_) h
  · exact addCreate_inv n hb ((hnew n hn).1 ▸ (hnew n hn).2)
  · refine addDelete_inv o hb ((hold o ho).1 ▸ (hold o ho).2) fun hd => ?_
    -- without deletion enabled only a modification removes anything, and then the target holds the key
    rcases hr with ⟨_, hd', _⟩ | ⟨_, n, hn, _⟩
    · rw [hd] at hd'; cases hd'
    · rw [(hold o ho).1, (hnew n hn).2]; rfl
  · exact chmod_inv n hb ((hnew n hn).1 ▸ (hnew n hn).2)

/-- **what `compare` schedules**: everything to create/chmod is an entry of the target, everything
    to delete is an entry of the old index, and **without deletion enabled only paths that the
    target itself holds are ever removed** (to be replaced by the target's entry). -/
theorem compare_inv (delete : Bool) (old new : Option Index) :
    ActInv delete old new (compare delete old new) := by
  refine compare_ind delete old new ⟨by simp, by simp, by simp⟩ (fun a k n hn _ ha => addCreate_inv (k, n) ha hn)
    (fun a k o ho hr ha => addDelete_inv (k, o) ha ho fun hd => ?_) (fun a k n hn _ ha => chmod_inv (k, n) ha hn)
  rcases hr with ⟨_, hd', _⟩ | ⟨_, n, hn, _⟩
  · rw [hd] at hd'; cases hd'
  · exact hn ▸ rfl

theorem no_delete_outside_target (old new : Option Index) (p : Key × Entry)
    (h : p ∈ (compare false old new).filesDelete ∨ p ∈ (compare false old new).dirsDelete) :
    (entryOf new p.1).isSome = true :=
  (compare_inv false old new).inTarget rfl p h

/-! ### completeness of `compare`: whatever has to change is scheduled -/

/-- the action lists only grow -/
structure ActLe (a b : Actions) : Prop where
  filesDelete : ∀ q ∈ a.filesDelete, q ∈ b.filesDelete
  dirsDelete : ∀ q ∈ a.dirsDelete, q ∈ b.dirsDelete
  filesCreate : ∀ q ∈ a.filesCreate, q ∈ b.filesCreate
  dirsCreate : ∀ q ∈ a.dirsCreate, q ∈ b.dirsCreate
  filesChmod : ∀ q ∈ a.filesChmod, q ∈ b.filesChmod

theorem ActLe.refl (a : Actions) : ActLe a a := ⟨fun _ h => h, fun _ h => h, fun _ h => h, fun _ h => h, fun _ h => h⟩

theorem ActLe.trans {a b c : Actions} (h1 : ActLe a b) (h2 : ActLe b c) : ActLe a c :=
  ⟨fun q h => h2.1 q (h1.1 q h), fun q h => h2.2 q (h1.2 q h), fun q h => h2.3 q (h1.3 q h),
   fun q h => h2.4 q (h1.4 q h), fun q h => h2.5 q (h1.5 q h)⟩

theorem addCreate_mono (a : Actions) (p : Key × Entry) : ActLe a (addCreate a p) :=
  ⟨fun _ h => addCreate_filesDelete a p ▸ h, fun _ h => addCreate_dirsDelete a p ▸ h,
   fun q h => (mem_addCreate_filesCreate a p q).mpr (.inl h), fun q h => (mem_addCreate_dirsCreate a p q).mpr (.inl h),
   fun q h => (mem_addCreate_filesChmod a p q).mpr (.inl h)⟩

theorem addDelete_mono (a : Actions) (p : Key × Entry) : ActLe a (addDelete a p) :=
  ⟨fun q h => (mem_addDelete_filesDelete a p q).mpr (.inl h), fun q h => (mem_addDelete_dirsDelete a p q).mpr (.inl h),
   fun _ h => addDelete_filesCreate a p ▸ h, fun _ h => addDelete_dirsCreate a p ▸ h,
   fun _ h => addDelete_filesChmod a p ▸ h⟩

theorem stepChange_mono (delete : Bool) (new : Option Index) (a : Actions) (c : Change) :
    ActLe a (stepChange delete new a c) :=
  stepChange_ind (P := ActLe a) (fun b n _ _ hb => hb.trans (addCreate_mono b n))
    (fun b o _ _ hb => hb.trans (addDelete_mono b o))
    (fun _ _ _ _ hb => hb.trans ⟨fun _ h => h, fun _ h => h, fun _ h => h, fun _ h => h,
      fun _ h => List.mem_append_left _ h⟩)
    (ActLe.refl a)

theorem foldl_stepChange_le (delete : Bool) (new : Option Index) {cs : List Change} {c : Change} (hc : c ∈ cs)
    (a : Actions) : ∃ b, ActLe (stepChange delete new b c) (cs.foldl (stepChange delete new) a) := by
  obtain ⟨s, t, rfl⟩ := List.append_of_mem hc
  rw [List.foldl_append, List.foldl_cons]
  exact ⟨_, List.foldlRecOn t _ (ActLe.refl _) fun b hb x _ => hb.trans (stepChange_mono delete new b x)⟩

/-- completeness: the step for the change at `k` was taken from some accumulator `b`, and the lists only grow
    afterwards; so what that step schedules is scheduled by `compare` -/
theorem compare_complete (delete : Bool) {old new : Option Index} (hwo : WFOpt old) (hwn : WFOpt new) (k : Key)
    (ht : diffEntry { cmp := .dirExec } (entryOf old k) (entryOf new k) ≠ .unchanged) :
    ∃ b, ActLe (stepChange delete new b
        { typ := diffEntry { cmp := .dirExec } (entryOf old k) (entryOf new k),
          old := (entryOf old k).map (k, ·), new := (entryOf new k).map (k, ·) })
      (compare delete old new) := by
  refine foldl_stepChange_le delete new (diff_complete _ rfl rfl (.inl rfl) old new hwo hwn k _ ?_) {}
  -- two absent entries do not differ
  have hnn : ((entryOf old k).isNone && (entryOf new k).isNone) = false := by
    cases h1 : entryOf old k with
    | some _ => rfl
    | none =>
      cases h2 : entryOf new k with
      | some _ => rfl
      | none => exact absurd (by rw [h1, h2]; exact diffEntry_refl _ none) ht
  simp [hereOf, hnn, ht]

theorem stepChange_add {delete : Bool} {new : Option Index} {a : Actions} {o : Option (Key × Entry)} {n : Key × Entry} :
    stepChange delete new a ⟨.add, o, some n⟩ = addCreate a n := by cases o <;> rfl

theorem stepChange_delete {new : Option Index} {a : Actions} {o : Key × Entry} {n : Option (Key × Entry)}
    (hk : (isDirE o.2 && newHasNode new o.1) = false) :
    stepChange true new a ⟨.delete, some o, n⟩ = addDelete a o := by
  cases n <;> simp [stepChange, hk]

theorem stepChange_replace {delete : Bool} {new : Option Index} {a : Actions} (o n : Key × Entry)
    (h : Replaced o.2 n.2) : stepChange delete new a ⟨.modify, some o, some n⟩ = addCreate (addDelete a o) n := by
  simp only [stepChange]
  rw [if_pos h.1]
  simp [h.2]

/-- **everything the target needs is scheduled for creation**: a target file whose key is new, or whose
    content or kind differs from what is there, is in `files_create` — for all well-formed indexes -/
theorem compare_schedules_create (delete : Bool) (old new : Option Index) (hwo : WFOpt old) (hwn : WFOpt new)
    (k : Key) (n : Entry) (hn : entryOf new k = some n) (hfile : isDirE n = false)
    (hneed : diffEntry { cmp := .dirExec } (entryOf old k) (some n) = .add ∨
      (diffEntry { cmp := .dirExec } (entryOf old k) (some n) = .modify ∧
        ∃ o, entryOf old k = some o ∧ (o.hashInfo ≠ n.hashInfo ∨ isDirE o ≠ isDirE n))) :
    (k, n) ∈ (compare delete old new).filesCreate := by
  obtain ⟨b, hle⟩ := compare_complete delete hwo hwn k (by rw [hn]; rcases hneed with h | ⟨h, _⟩ <;> simp [h])
  refine hle.filesCreate _ ?_
  rw [hn]
  rcases hneed with h | ⟨h, o, ho, hdiff⟩
  · rw [h, Option.map_some, stepChange_add]
    exact (mem_addCreate_filesCreate ..).mpr (.inr ⟨rfl, hfile⟩)
  · rw [h, ho, Option.map_some, Option.map_some, stepChange_replace _ _ ⟨hdiff, by simp [hfile]⟩]
    exact (mem_addCreate_filesCreate ..).mpr (.inr ⟨rfl, hfile⟩)

/-- **everything that has to go is scheduled for deletion** (deletion enabled): an old entry whose key the
    target does not hold is in `files_delete` / `dirs_delete` — except a directory that is still an implicit
    directory of the target -/
theorem compare_schedules_delete (old new : Option Index) (hwo : WFOpt old) (hwn : WFOpt new)
    (k : Key) (o : Entry) (ho : entryOf old k = some o) (hnone : entryOf new k = none)
    (hkeep : (isDirE o && newHasNode new k) = false) :
    if isDirE o then (k, o) ∈ (compare true old new).dirsDelete else (k, o) ∈ (compare true old new).filesDelete := by
  have htyp : diffEntry { cmp := .dirExec } (some o) none = .delete := rfl
  obtain ⟨b, hle⟩ := compare_complete true hwo hwn k (by rw [ho, hnone, htyp]; simp)
  rw [ho, hnone, htyp, Option.map_some, stepChange_delete hkeep] at hle
  split
  · next hd => exact hle.dirsDelete _ ((mem_addDelete_dirsDelete ..).mpr (.inr ⟨rfl, hd⟩))
  · next hd => exact hle.filesDelete _ ((mem_addDelete_filesDelete ..).mpr (.inr ⟨rfl, by simpa using hd⟩))

end DvcData.IndexCheckout

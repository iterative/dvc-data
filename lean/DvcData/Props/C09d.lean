import DvcData.Props.C09b
/-!
# C09 — entries whose source is unavailable are reported through the error callback rather than silently skipped

In the creation phase of `apply`, every scheduled file whose object is not in the cache ends up in the error list, whatever
else is scheduled and in whatever order (`createFile_reports_unavailable`, `apply_reports_unavailable`), and an error is only
ever reported for a scheduled key (`createFile_errs_scheduled`).
-/
namespace DvcData.IndexCheckout
open DvcData Path MetaInfo IndexDiff List

/-- the object an entry names is not available in the cache (or the entry names none) -/
def Unavailable (cache : List Str) (e : Entry) : Prop :=
  match e.hashInfo with
  | none => True
  | some h =>
    match h.value with
    | none => True
    | some oid => h.truthy = false ∨ cache.contains oid = false

theorem createFile_errs (cache : List Str) (acc : Ws × List Key) (p : Key × Entry) :
    (createFile cache acc p).2 = acc.2 ++ [p.1] ∨
      ((createFile cache acc p).2 = acc.2 ∧ ¬ Unavailable cache p.2) := by
  rcases createFile_cases cache acc p with h | ⟨w1, _, h | ⟨hi, oid, hh, hv, ht, hc, h⟩⟩
  · exact .inl (by rw [h])
  · exact .inl (by rw [h])
  · refine .inr ⟨by rw [h], ?_⟩
    simpa [Unavailable, hh, hv, ht] using hc

theorem foldl_createFile_errs_mono {cache : List Str} (ps : List (Key × Entry)) {acc : Ws × List Key} {k : Key}
    (h : k ∈ acc.2) : k ∈ (ps.foldl (createFile cache) acc).2 :=
  List.foldlRecOn (motive := fun a : Ws × List Key => k ∈ a.2) ps _ h fun a ha p _ => by
    rcases createFile_errs cache a p with h | ⟨h, _⟩ <;> rw [h]
    · exact mem_append_left _ ha
    · exact ha

/-- **every scheduled file whose object is unavailable is reported** -/
theorem createFile_reports_unavailable (cache : List Str) : ∀ (ps : List (Key × Entry)) (acc : Ws × List Key) (p : Key × Entry),
    p ∈ ps → Unavailable cache p.2 → p.1 ∈ (ps.foldl (createFile cache) acc).2 := by
  intro ps acc p hp hu
  -- the step for `p` reports it, and the steps after it keep what is reported
  obtain ⟨s, t, rfl⟩ := List.append_of_mem hp
  rw [foldl_append, foldl_cons]
  refine foldl_createFile_errs_mono t ?_
  rcases createFile_errs cache (foldl (createFile cache) acc s) p with h | ⟨_, h⟩
  · rw [h]; exact mem_append_right _ (mem_singleton_self _)
  · exact (h hu).elim

/-- an error is only ever reported for a key that was scheduled (or was in the list already) -/
theorem createFile_errs_scheduled (cache : List Str) : ∀ (ps : List (Key × Entry)) (acc : Ws × List Key) (k : Key),
    k ∈ (ps.foldl (createFile cache) acc).2 → k ∈ acc.2 ∨ ∃ p ∈ ps, p.1 = k :=
  fun ps acc k => List.foldlRecOn (motive := fun a : Ws × List Key => k ∈ a.2 → k ∈ acc.2 ∨ ∃ p ∈ ps, p.1 = k) ps _ .inl
    fun a ha p hp hk => by
      rcases createFile_errs cache a p with h | ⟨h, _⟩ <;> rw [h] at hk
      · rcases mem_append.mp hk with hk | hk
        · exact ha hk
        · exact .inr ⟨p, hp, (mem_singleton.mp hk).symm⟩
      · exact ha hk

/-- **C09: an unavailable source is reported, never silently skipped.**  Whatever `apply` is given (any action lists, any
    workspace): if it returns, the keys it reports contain every file scheduled for creation whose object is not in the cache,
    and nothing that was not scheduled for creation. -/
theorem apply_reports_unavailable (cache : List Str) (a : Actions) (ws ws' : Ws) (errs : List Key)
    (h : apply cache a ws = .ok ws' errs) :
    (∀ p ∈ a.filesCreate, Unavailable cache p.2 → p.1 ∈ errs) ∧
    (∀ k ∈ errs, ∃ p ∈ a.filesCreate, p.1 = k) := by
  revert h
  fun_cases apply cache a ws
  · exact fun h => nomatch h
  · next ws3 _ w4 e4 hfold =>
    intro h
    cases h
    have herrs : (foldl (createFile cache) (ws3, []) a.filesCreate).2 = errs := by rw [hfold]
    exact ⟨fun p hp hu => herrs ▸ createFile_reports_unavailable cache a.filesCreate (ws3, []) p hp hu,
      fun k hk => (createFile_errs_scheduled cache a.filesCreate (ws3, []) k (herrs ▸ hk)).resolve_left (by simp)⟩

end DvcData.IndexCheckout

import DvcData.Props.C05
/-!
# C10 — object checkout converges, is idempotent, honours link types, spares the cache

`checkout_converges` and `checkout_relinks` are read off one statement, `checkout_force`: key by key, what the two phases
of a forced checkout (`delAll_force`, `workAll_force_spec`) leave.
-/
namespace DvcData.Checkout
open DvcData Path AList

theorem mem_deletedOf {ws : Ws} {target : Target} {delOrder : List Key} {k : Key} :
    k ∈ deletedOf ws target delOrder ↔ k ∈ delOrder ∧ (ws.lookup k).isSome = true ∧ target.lookup k = none := by
  simp [deletedOf]

theorem mem_workOf {cfg : Cfg} {cache : List Oid} {ws : Ws} {target : Target} {workOrder : List Key} {e : Key × Oid} :
    e ∈ workOf cfg cache ws target workOrder ↔
      e.1 ∈ workOrder ∧ target.lookup e.1 = some e.2 ∧ needsWork cfg cache (ws.lookup e.1) e.2 = true := by
  simp only [workOf, List.mem_filterMap]
  constructor
  · rintro ⟨k, hk, h⟩
    split at h
    · next ho =>
      split at h
      · next hn => cases h; exact ⟨hk, ho, hn⟩
      · cases h
    · cases h
  · rintro ⟨hk, ho, hn⟩
    exact ⟨e.1, hk, by simp only [ho, hn, if_true]⟩

theorem needsWork_eq_false_iff {cfg : Cfg} {cache : List Oid} {old : Option WFile} {o : Oid} :
    needsWork cfg cache old o = false ↔ ∃ f, old = some f ∧ f.oid = o ∧
      if cfg.relink = true then needsRelink cfg.types f (inCache cache o) = false else inCache cache o = true := by
  fun_cases needsWork cfg cache old o with
  | case1 => simp
  | case2 f hne => simp [hne]
  | case3 f ho hr => simp [Decidable.not_not.mp ho, hr]
  | case4 f ho hr => simp [Decidable.not_not.mp ho, hr]

/-- the oid view of a workspace -/
def oidAt (w : Ws) (k : Key) : Option Oid := (w.lookup k).map (·.oid)

theorem oidAt_eq_none_iff {w : Ws} {k : Key} : oidAt w k = none ↔ w.lookup k = none := by
  simp [oidAt]

theorem oidAt_eq_some_iff {w : Ws} {k : Key} {o : Oid} : oidAt w k = some o ↔ ∃ f, w.lookup k = some f ∧ f.oid = o := by
  simp [oidAt]

/-- the file is linked the way `τ` asks: that kind, and (for links) pointing at its cache object -/
def Settled (τ : LinkKind) (f : WFile) : Prop := f.link = τ ∧ (τ ≠ .copy → f.toCache = true)

theorem needsRelink_single {τ : LinkKind} {f : WFile} (h : needsRelink [τ] f true = false) : Settled τ f := by
  unfold needsRelink at h
  -- the 3 x 3 table of configured against actual link kind
  cases τ <;> cases hl : f.link <;> simp [hl, needsRelink, Settled] at h ⊢ <;> exact h

/-- forced deletion phase: exactly the listed keys disappear -/
theorem delAll_force (cfg : Cfg) (hf : cfg.force = true) (cache : List Oid) : ∀ (ks : List Key) (w : Ws),
    (delAll cfg cache ks w).1 = none ∧
    ∀ k, (delAll cfg cache ks w).2.lookup k = if k ∈ ks then none else w.lookup k := by
  intro ks w
  -- a refusal would name a file that fails the guard, and under force none does
  have h : (delAll cfg cache ks w).1 = none := Option.eq_none_iff_forall_ne_some.mpr fun k hr =>
    have ⟨_, _, hm⟩ := delAll_refused hr
    hm (.inl hf)
  exact ⟨h, delAll_lookup h⟩

theorem checkoutEntry_force {cfg : Cfg} (hf : cfg.force = true) {cache : List Oid} (st : Ws × List Key)
    {e : Key × Oid} (hc : inCache cache e.2 = true) :
    ∃ w', checkoutEntry cfg cache st e = some (w', st.2) ∧
      (∃ f, w'.lookup e.1 = some f ∧ f.oid = e.2 ∧ Settled (linkKindOf cfg) f) ∧
      ∀ k, k ≠ e.1 → w'.lookup k = st.1.lookup k := by
  fun_cases checkoutEntry cfg cache st e with
  | case1 w failed link hk =>  -- nothing there
    unfold link
    rw [if_pos hc]
    exact ⟨_, rfl, ⟨_, lookup_set_self .., rfl, rfl, fun _ => rfl⟩, fun k hk => lookup_set_ne (Ne.symm hk)⟩
  | case2 w failed f hl hcond =>  -- a copy of the wanted content, left as it is: copies are what is configured
    simp only [Bool.and_eq_true, decide_eq_true_eq] at hcond
    obtain ⟨⟨⟨-, hcopy⟩, ho⟩, hkind⟩ := hcond
    exact ⟨w, rfl, ⟨f, hl, ho, hkind ▸ hcopy, fun hne => absurd hkind hne⟩, fun _ _ => rfl⟩
  | case3 w failed f hl hcond hg => exact absurd (.inl hf) (guardedRemove_eq_none_iff.mp hg)  -- refused
  | case4 w failed link f hl hcond w' hg =>  -- replaced
    obtain ⟨-, rfl⟩ := guardedRemove_eq_some_iff.mp hg
    unfold link
    rw [if_pos hc]
    exact ⟨_, rfl, ⟨_, lookup_set_self .., rfl, rfl, fun _ => rfl⟩, fun k hk => by
      rw [lookup_set_ne (Ne.symm hk), lookup_erase_ne (Ne.symm hk)]⟩

theorem workAll_force_spec {cfg : Cfg} (hf : cfg.force = true) {cache : List Oid} (es : List (Key × Oid)) (w : Ws)
    (failed : List Key) (hc : ∀ e ∈ es, inCache cache e.2 = true) :
    ∃ w', workAll cfg cache es (w, failed) = (none, (w', failed)) ∧ ∀ k,
      ((∀ e ∈ es, e.1 ≠ k) ∧ w'.lookup k = w.lookup k) ∨
      ∃ e ∈ es, e.1 = k ∧ ∃ f, w'.lookup k = some f ∧ f.oid = e.2 ∧ Settled (linkKindOf cfg) f := by
  induction es generalizing w with
  | nil => exact ⟨w, rfl, fun k => .inl ⟨by simp, rfl⟩⟩
  | cons e r ih =>
    obtain ⟨w1, h1, hat, hoff⟩ := checkoutEntry_force hf (w, failed) (hc e (by simp))
    obtain ⟨w', h2, hr⟩ := ih w1 fun x hx => hc x (List.mem_cons_of_mem _ hx)
    refine ⟨w', by simp only [workAll, h1]; exact h2, fun k => ?_⟩
    rcases hr k with ⟨hno, hk⟩ | ⟨x, hx, h⟩
    · by_cases hek : e.1 = k
      · exact .inr ⟨e, by simp, hek, by rw [hk, ← hek]; exact hat⟩
      · exact .inl ⟨by simpa [hek] using hno, by rw [hk, hoff k (Ne.symm hek)]⟩
    · exact .inr ⟨x, List.mem_cons_of_mem _ hx, h⟩

theorem workAll_force (cfg : Cfg) (hf : cfg.force = true) (cache : List Oid) : ∀ (es : List (Key × Oid))
    (w : Ws) (failed : List Key), (∀ e ∈ es, inCache cache e.2 = true) →
    (∀ e1 ∈ es, ∀ e2 ∈ es, e1.1 = e2.1 → e1.2 = e2.2) →
    ∃ w', workAll cfg cache es (w, failed) = (none, (w', failed)) ∧
      (∀ e ∈ es, ∃ f, w'.lookup e.1 = some f ∧ f.oid = e.2) ∧
      (∀ k, (∀ e ∈ es, e.1 ≠ k) → w'.lookup k = w.lookup k) := by
  intro es w failed hc hfun
  obtain ⟨w', h, hs⟩ := workAll_force_spec hf es w failed hc
  refine ⟨w', h, fun e he => ?_, fun k hk => ?_⟩
  · rcases hs e.1 with ⟨hno, -⟩ | ⟨x, hx, hxe, f, hl, ho, -⟩
    · exact absurd rfl (hno e he)
    · exact ⟨f, hl, ho.trans (hfun x hx e he hxe)⟩
  · rcases hs k with ⟨-, h⟩ | ⟨x, hx, hxk, -⟩
    · exact h
    · exact absurd hxk (hk x hx)

/-- **A forced checkout of a cached target, key by key.**  It ends `ok`; a key the target does not bind is free afterwards;
    a key it binds holds a file with the target's content that either was linked in by this run, as configured, or was
    there before and needed no work. -/
theorem checkout_force {cfg : Cfg} (hf : cfg.force = true) {cache : List Oid} {ws : Ws} {target : Target}
    {delOrder workOrder : List Key}
    (hcache : ∀ k o, target.lookup k = some o → inCache cache o = true)
    (hdel : ∀ k, (ws.lookup k).isSome = true → k ∈ delOrder)
    (hwork : ∀ k, (target.lookup k).isSome = true → k ∈ workOrder) :
    (∃ b, (checkout cfg cache ws target delOrder workOrder).outcome = .ok b) ∧
    ∀ k, (target.lookup k = none ∧ (checkout cfg cache ws target delOrder workOrder).ws.lookup k = none) ∨
      ∃ f, (checkout cfg cache ws target delOrder workOrder).ws.lookup k = some f ∧ target.lookup k = some f.oid ∧
        (Settled (linkKindOf cfg) f ∨ ws.lookup k = some f ∧ needsWork cfg cache (some f) f.oid = false) := by
  obtain ⟨hd1, hd2⟩ := delAll_force cfg hf cache (deletedOf ws target delOrder) ws
  obtain ⟨w2, hw2, hw⟩ := workAll_force_spec hf (workOf cfg cache ws target workOrder)
    (delAll cfg cache (deletedOf ws target delOrder) ws).2 []
    fun e he => hcache e.1 e.2 (mem_workOf.mp he).2.1
  obtain ⟨hws, hok⟩ := checkout_phases (delOrder := delOrder)
    (d := delAll cfg cache (deletedOf ws target delOrder) ws) (r := (none, (w2, []))) rfl hw2
  -- nothing was refused while deleting (`d.1 = none`), so the `if` of `hws` reduces to the work phase's workspace `r.2.1 = w2`
  rw [hd1] at hws
  rw [show (checkout cfg cache ws target delOrder workOrder).ws = w2 from hws]
  -- at `r = (none, (w2, []))` the premises `r.1 = none` and `r.2.2 = []` of `hok` are `rfl`
  refine ⟨hok hd1 rfl rfl, fun k => ?_⟩
  rcases hw k with ⟨hno, hk⟩ | ⟨e, he, rfl, f, hl, ho, hs⟩
  · -- no work entry names `k`: it holds what the prior workspace held, unless that was deleted
    rw [hd2] at hk
    cases ht : target.lookup k with
    | none =>
      refine .inl ⟨rfl, ?_⟩
      rw [hk]
      split
      · rfl
      · next hnd =>
        cases hws : ws.lookup k with
        | none => rfl
        | some f => exact absurd (mem_deletedOf.mpr ⟨hdel k (by simp [hws]), by simp [hws], ht⟩) hnd
    | some o =>
      -- not scheduled, though the work order lists it: it needed no work
      have hn : needsWork cfg cache (ws.lookup k) o = false :=
        Bool.eq_false_iff.mpr fun hn => hno (k, o) (mem_workOf.mpr ⟨hwork k (by simp [ht]), ht, hn⟩) rfl
      obtain ⟨f, hws, rfl, -⟩ := needsWork_eq_false_iff.mp hn
      rw [hws] at hn
      have hnd : k ∉ deletedOf ws target delOrder := fun hkd => by
        have := (mem_deletedOf.mp hkd).2.2
        rw [ht] at this
        cases this
      exact .inr ⟨f, by rw [hk, if_neg hnd, hws], rfl, .inr ⟨hws, hn⟩⟩
  · exact .inr ⟨f, hl, ho ▸ (mem_workOf.mp he).2.1, .inl hs⟩

/-- **C10: a forced checkout converges.** For every prior workspace whose keys the deletion order
    enumerates, every target whose keys the work order enumerates and whose objects are cached,
    the result is `ok` and the workspace holds exactly the target's files with the target's
    contents — relink on or off, any link types, any iteration orders. -/
theorem checkout_converges (cfg : Cfg) (hf : cfg.force = true) (cache : List Oid) (ws : Ws) (target : Target)
    (delOrder workOrder : List Key)
    (hcache : ∀ k o, target.lookup k = some o → inCache cache o = true)
    (hdel : ∀ k, (ws.lookup k).isSome = true → k ∈ delOrder)
    (hwork : ∀ k, (target.lookup k).isSome = true → k ∈ workOrder) :
    (∃ b, (checkout cfg cache ws target delOrder workOrder).outcome = .ok b) ∧
    ∀ k, oidAt (checkout cfg cache ws target delOrder workOrder).ws k = target.lookup k := by
  obtain ⟨hok, h⟩ := checkout_force hf hcache hdel hwork
  refine ⟨hok, fun k => ?_⟩
  rcases h k with ⟨ht, hl⟩ | ⟨f, hl, ht, -⟩
  · exact (oidAt_eq_none_iff.mpr hl).trans ht.symm
  · exact (oidAt_eq_some_iff.mpr ⟨f, hl, rfl⟩).trans ht.symm

/-- **C10: a second checkout reports nothing to do** (not relinking, target cached): when the
    workspace already equals the target, the diff is empty and the workspace is returned as is -/
theorem checkout_idempotent (cfg : Cfg) (hr : cfg.relink = false) (cache : List Oid) (ws : Ws) (target : Target)
    (delOrder workOrder : List Key)
    (hcache : ∀ k o, target.lookup k = some o → inCache cache o = true)
    (heq : ∀ k, oidAt ws k = target.lookup k) :
    checkout cfg cache ws target delOrder workOrder = { outcome := .ok false, ws := ws } := by
  have hd : deletedOf ws target delOrder = [] := by
    refine List.eq_nil_iff_forall_not_mem.mpr fun k hk => ?_
    obtain ⟨-, hs, ht⟩ := mem_deletedOf.mp hk
    rw [oidAt_eq_none_iff.mp ((heq k).trans ht)] at hs
    cases hs
  have hw : workOf cfg cache ws target workOrder = [] := by
    refine List.eq_nil_iff_forall_not_mem.mpr fun e he => ?_
    obtain ⟨-, ht, hn⟩ := mem_workOf.mp he
    obtain ⟨f, hws, ho⟩ := oidAt_eq_some_iff.mp ((heq e.1).trans ht)
    rw [hws, needsWork_eq_false_iff.mpr ⟨f, rfl, ho, by simp [hr, hcache _ _ ht]⟩] at hn
    cases hn
  simp [checkout, hd, hw]

/-- **C10: link types.** A forced, relinking checkout with one configured link type `τ` of a cached target
    leaves *every* file of the workspace linked as `τ` (and, for hard and symbolic links, to its cache
    object) — from any prior workspace with any mixture of link kinds, for any iteration orders. -/
theorem checkout_relinks (cfg : Cfg) (hf : cfg.force = true) (hr : cfg.relink = true) (τ : LinkKind)
    (ht : cfg.types = [τ]) (cache : List Oid) (ws : Ws) (target : Target) (delOrder workOrder : List Key)
    (hcache : ∀ k o, target.lookup k = some o → inCache cache o = true)
    (hdel : ∀ k, (ws.lookup k).isSome = true → k ∈ delOrder)
    (hwork : ∀ k, (target.lookup k).isSome = true → k ∈ workOrder) :
    ∀ k f, (checkout cfg cache ws target delOrder workOrder).ws.lookup k = some f → Settled τ f := by
  intro k f hk
  rcases (checkout_force hf hcache hdel hwork).2 k with ⟨-, hl⟩ | ⟨f', hl, htk, hs⟩
  · rw [hk] at hl; cases hl
  · rw [hk] at hl
    cases hl
    rcases hs with hs | ⟨-, hn⟩
    · rwa [linkKindOf, ht] at hs
    · -- it needed no work although relinking was asked for: it is linked as configured already
      obtain ⟨_, hf', -, h⟩ := needsWork_eq_false_iff.mp hn
      cases hf'
      rw [if_pos hr, ht, hcache k _ htk] at h
      exact needsRelink_single h

end DvcData.Checkout

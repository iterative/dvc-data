import DvcData.Proofs.Lazy
import DvcData.Proofs.Path
/-!
# C17 — lazy directory loading, filtered views and the fs adaptor are transparent

The read operations (`getItem`, `runGets`, `expand`, `iterItems`, `lsAt`, the views) on top of the single `loadAt` of
`Proofs/Lazy.lean`. They change an index only by `_load`ing directories (`Loads`), and that keeps `W1`, `WF` and the
meaning at every key; they answer completely because loading never makes a directory `UL` and each operation loads
every `UL` directory on the way to the keys it answers for.
-/
namespace DvcData.IndexLazy
open DvcData Path AList

/-! ### the read operations change an index only by loading -/

/-- `idx'` comes from `idx` by `_load`ing directories, any number of them in any order -/
inductive Loads (load : Oid → Option Listing) (idx : LIndex) : LIndex → Prop
  | refl : Loads load idx idx
  | step {i : LIndex} (d : Key) : Loads load idx i → Loads load idx (loadAt load i d)

namespace Loads
variable {load : Oid → Option Listing} {idx i j : LIndex}

theorem trans (h1 : Loads load idx i) (h2 : Loads load i j) : Loads load idx j := by
  induction h2 with
  | refl => exact h1
  | step d _ ih => exact ih.step d

theorem foldl (ds : List Key) : Loads load idx (ds.foldl (loadAt load) idx) :=
  List.foldlRecOn ds _ .refl fun _ hi d _ => hi.step d

theorem preserves (hlo : ListingsOK load) (hw : W1 idx) (h : Loads load idx i) :
    W1 i ∧ ∀ k, denote load i k = denote load idx k := by
  induction h with
  | refl => exact ⟨hw, fun _ => rfl⟩
  | step d _ ih => exact ⟨loadAt_W1 load hlo _ ih.1 d, fun k => (loadAt_denote load hlo _ ih.1 d k).trans (ih.2 k)⟩

theorem wf (hwf : AList.WF idx) (h : Loads load idx i) : AList.WF i := by
  induction h with
  | refl => exact hwf
  | step d _ ih => exact loadAt_WF load _ ih d

end Loads

theorem expand_loads (load : Oid → Option Listing) (idx : LIndex) : Loads load idx (expand load idx) :=
  .foldl _

/-- what `__getitem__` does on a miss (index.py 677-680) and `iteritems(prefix)` does first (743-747): `_load` the
    longest bound prefix of the key -/
def loadAbove (load : Oid → Option Listing) (idx : LIndex) (k : Key) : LIndex :=
  match longestPrefix idx k with
  | some d => loadAt load idx d
  | none => idx

theorem loadAbove_loads (load : Oid → Option Listing) (idx : LIndex) (k : Key) : Loads load idx (loadAbove load idx k) := by
  unfold loadAbove
  split
  · exact .step _ .refl
  · exact .refl

/-- afterwards no unloaded available directory is a prefix of the key: in a well-formed index such a directory is
    the longest bound prefix, the one that was loaded -/
theorem not_UL_loadAbove {load : Oid → Option Listing} {idx : LIndex} (hw : W1 idx) {d k : Key} (hdk : d <+: k) :
    ¬ UL load (loadAbove load idx k) d := by
  have key : UL load idx d → longestPrefix idx k = some d :=
    fun ⟨e, hd, hc, _⟩ => longestPrefix_of_unloaded hw hd hc hdk
  intro hul
  unfold loadAbove at hul
  split at hul
  · next d0 hlp =>
    obtain ⟨h, hne⟩ := loadAt_UL load idx d0 d hul
    rw [key h] at hlp
    exact hne (Option.some.inj hlp)
  · next hlp => rw [key hul] at hlp; cases hlp

/-- a lookup through the lazy index answers with the meaning of the index -/
theorem getItem_denote (load : Oid → Option Listing) (idx : LIndex) (k : Key) :
    (getItem load idx k).2.map proj = denote load idx k := by
  unfold getItem denote
  cases hk : idx.lookup k with
  | some e => rfl
  | none =>
    dsimp only
    congr 1
    cases hlp : longestPrefix idx k with
    | none => simp only [below, hlp, hk]
    | some d =>
      dsimp only
      have hne : d ≠ k := fun h => by have := (longestPrefix_eq_some_iff.mp hlp).1; rw [h, hk] at this; cases this
      rcases loadAt_cases load idx d with ⟨hnot, h⟩ | ⟨e, l, hd, hc, hl, h⟩
      · -- nothing is loaded, and nothing is provided: the longest bound prefix is `d`, which is not `UL`
        have hb : below load idx k = none := below_eq_none fun d' hlp' => by
          rw [hlp] at hlp'; cases hlp'; exact hnot
        rw [h, hk, hb]
      · rw [h, lookup_loadedIdx, if_neg hne, hk, Option.or_none, below_eq hlp hd hc hl]

theorem getItem_loads (load : Oid → Option Listing) (idx : LIndex) (k : Key) : Loads load idx (getItem load idx k).1 := by
  unfold getItem
  split
  · exact .refl
  · exact loadAbove_loads load idx k

/-- after a lookup of `k`, no unloaded available directory object remains strictly above `k` -/
theorem getItem_no_UL_above (load : Oid → Option Listing) (idx : LIndex) (hw : W1 idx) (k d : Key)
    (hul : UL load (getItem load idx k).1 d) (hdk : d <+: k) : d = k := by
  unfold getItem at hul
  split at hul
  · next e hk =>
    obtain ⟨ed, hd, hc, _⟩ := hul
    exact (hw d ed hd hc k (by rw [hk]; rfl) hdk).symm
  · exact absurd hul (not_UL_loadAbove hw hdk)

/-! ### one lookup, on an explicit entry and below an unloaded directory (point facts; nothing below rests on them) -/

/-- an entry that is present is returned as it is, without loading anything -/
theorem getItem_present (load : Oid → Option Listing) (idx : LIndex) (k : Key) (e : LEntry)
    (h : idx.lookup k = some e) : getItem load idx k = (idx, some e) := by
  simp [getItem, h]

/-- **a file listed by an unloaded directory object is found through the lazy index exactly as
    the directory object lists it**: looking `d ++ rel` up loads `d` and returns the listed file -/
theorem getItem_below (load : Oid → Option Listing) (idx : LIndex) (d rel : Key) (f : Oid)
    (e : LEntry) (l : Listing)
    (habsent : idx.lookup (d ++ rel) = none)
    (hlp : longestPrefix idx (d ++ rel) = some d)
    (hd : idx.lookup d = some e) (hdir : e.isdir = true) (hun : e.loaded = false)
    (hload : e.hash.bind load = some l)
    (hmem : (rel, f) ∈ l) (hrel : rel ≠ [])
    (hfun : ∀ c ∈ childrenOf d l, c.1 = d ++ rel → c.2 = { isdir := false, hash := some f, loaded := false }) :
    (getItem load idx (d ++ rel)).2 = some { isdir := false, hash := some f, loaded := false } := by
  have hg : (getItem load idx (d ++ rel)).2 = (loadAt load idx d).lookup (d ++ rel) := by
    simp only [getItem, habsent, hlp]
  rw [hg, loadAt_eq hd (by rw [hdir, hun]; rfl) hload, loadedIdx, lookup_set,
    if_neg (strict_below_ne d rel hrel).symm]
  exact lookup_setAll_mem _ idx _ _
    (List.mem_append_left _ (List.mem_map.mpr ⟨(rel, f), hmem, rfl⟩)) hfun

/-! ### the refinement: every sequence of lookups answers as on the expanded index -/

/-- a sequence of lookups through a lazy index (each may load a directory and thereby change the index) -/
def runGets (load : Oid → Option Listing) : LIndex → List Key → LIndex × List (Option (Bool × Option Oid))
  | idx, [] => (idx, [])
  | idx, k :: r =>
    let (idx1, a) := getItem load idx k
    let (idx2, as) := runGets load idx1 r
    (idx2, a.map proj :: as)

theorem runGets_loads (load : Oid → Option Listing) : ∀ (ks : List Key) (idx : LIndex), Loads load idx (runGets load idx ks).1
  | [], _ => .refl
  | k :: r, idx => (getItem_loads load idx k).trans (runGets_loads load r _)

/-- **C17 (lookups).** For a well-formed lazy index, *every* sequence of lookups — in whatever order they
    trigger the loading of directory objects — answers each key with the meaning of the original index at
    that key; the index stays well-formed and keeps its meaning. -/
theorem lazy_lookups_answer_denote (load : Oid → Option Listing) (hlo : ListingsOK load) :
    ∀ (ks : List Key) (idx : LIndex), W1 idx →
      (runGets load idx ks).2 = ks.map (denote load idx) ∧ W1 (runGets load idx ks).1 ∧
      ∀ k', denote load (runGets load idx ks).1 k' = denote load idx k' := by
  intro ks idx hw
  refine ⟨?_, (runGets_loads load ks idx).preserves hlo hw⟩
  induction ks generalizing idx with
  | nil => rfl
  | cons k r ih =>
    -- the first lookup answers with the meaning and keeps it, so the others answer as on the original index
    obtain ⟨hw1, hden1⟩ := (getItem_loads load idx k).preserves hlo hw
    simp only [runGets, List.map_cons]
    rw [ih _ hw1, getItem_denote]
    exact congrArg _ (List.map_congr_left fun k' _ => hden1 k')

/-- loading everything (`index.load()`) keeps the meaning -/
theorem expand_denote (load : Oid → Option Listing) (hlo : ListingsOK load) (idx : LIndex) (hw : W1 idx) (k : Key) :
    denote load (expand load idx) k = denote load idx k :=
  ((expand_loads load idx).preserves hlo hw).2 k

/-- **C17 (lazy = expanded).** Any sequence of lookups gives the same answers on the lazy index as on the
    explicitly expanded one — loading on demand, in any order, is invisible. -/
theorem lazy_refines_expanded (load : Oid → Option Listing) (hlo : ListingsOK load) (idx : LIndex) (hw : W1 idx)
    (ks : List Key) : (runGets load idx ks).2 = (runGets load (expand load idx) ks).2 := by
  obtain ⟨hwe, hde⟩ := (expand_loads load idx).preserves hlo hw
  rw [(lazy_lookups_answer_denote load hlo ks idx hw).1,
    (lazy_lookups_answer_denote load hlo ks (expand load idx) hwe).1]
  exact List.map_congr_left (fun k _ => (hde k).symm)

/-! ### iteration under a prefix -/

/-- `iteritems(prefix)` in the order of the source: `if prefix:` load what the prefix lies in; then load every directory
    met at or below the prefix -/
theorem iterItems_fst (load : Oid → Option Listing) (idx : LIndex) (pfx : Key) :
    (iterItems load idx pfx).1 =
      let idx1 := if pfx = [] then idx else loadAbove load idx pfx
      ((idx1.filter fun e => pfx.isPrefixOf e.1).map (·.1)).foldl (loadAt load) idx1 := by
  unfold iterItems loadAbove
  cases longestPrefix idx pfx <;> by_cases h : pfx = [] <;> simp only [h, if_true, if_false]

theorem mem_iterItems {load : Oid → Option Listing} {idx : LIndex} {pfx : Key} {p : Key × LEntry} :
    p ∈ (iterItems load idx pfx).2 ↔ p ∈ (iterItems load idx pfx).1 ∧ pfx <+: p.1 := by
  rw [← List.isPrefixOf_iff_prefix]
  exact List.mem_filter

theorem iterItems_loads (load : Oid → Option Listing) (idx : LIndex) (pfx : Key) : Loads load idx (iterItems load idx pfx).1 := by
  rw [iterItems_fst]
  refine Loads.trans ?_ (Loads.foldl _)
  split
  · exact .refl
  · exact loadAbove_loads load idx pfx

/-- iterating under a prefix (which loads what it needs on the way) leaves the index well-formed and does not
    change what it means at any key -/
theorem iterItems_preserves (load : Oid → Option Listing) (hlo : ListingsOK load) (idx : LIndex) (hw : W1 idx) (pfx : Key) :
    W1 (iterItems load idx pfx).1 ∧ ∀ k, denote load (iterItems load idx pfx).1 k = denote load idx k :=
  (iterItems_loads load idx pfx).preserves hlo hw

/-- whatever an iteration under a prefix yields lies under that prefix, and its kind and hash are what the
    original index means at that key (explicitly, or through the directory object the key lies in) -/
theorem iterItems_sound (load : Oid → Option Listing) (hlo : ListingsOK load) (idx : LIndex) (hw : W1 idx)
    (hwf : AList.WF idx) (pfx : Key) (p : Key × LEntry) (hp : p ∈ (iterItems load idx pfx).2) :
    pfx <+: p.1 ∧ denote load idx p.1 = some (proj p.2) := by
  obtain ⟨hm, hpre⟩ := mem_iterItems.mp hp
  have hL := iterItems_loads load idx pfx
  rw [← (hL.preserves hlo hw).2 p.1]
  exact ⟨hpre, denote_of_lookup (lookup_of_mem (hL.wf hwf) hm)⟩

/-! ### iteration is complete: everything the index means under the prefix is yielded -/

theorem foldl_loadAt_UL {load : Oid → Option Listing} {ks : List Key} {idx : LIndex} {d : Key}
    (h : UL load (ks.foldl (loadAt load) idx) d) : UL load idx d ∧ d ∉ ks := by
  induction ks generalizing idx with
  | nil => exact ⟨h, List.not_mem_nil⟩
  | cons k r ih =>
    obtain ⟨h1, h2⟩ := ih h
    obtain ⟨h3, h4⟩ := loadAt_UL load idx k d h1
    exact ⟨h3, List.not_mem_cons_of_ne_of_not_mem h4 h2⟩

theorem not_UL_iterItems {load : Oid → Option Listing} {idx : LIndex} (hw : W1 idx) {pfx k d : Key} (hk : pfx <+: k)
    (hdk : d <+: k) : ¬ UL load (iterItems load idx pfx).1 d := by
  intro hul
  rw [iterItems_fst] at hul
  obtain ⟨hul1, hnot⟩ := foldl_loadAt_UL hul
  by_cases hpd : pfx <+: d
  · -- at or below the prefix: `d` was bound, hence among the directories the iteration loaded
    obtain ⟨e, he, _⟩ := hul1
    exact hnot (List.mem_map.mpr ⟨(d, e),
      List.mem_filter.mpr ⟨mem_of_lookup he, List.isPrefixOf_iff_prefix.mpr hpd⟩, rfl⟩)
  · -- strictly above the prefix (which then is not the root): loaded before the iteration started
    have hdp : d <+: pfx := (List.prefix_or_prefix_of_prefix hk hdk).resolve_left hpd
    rw [if_neg fun h : pfx = [] => hpd (h ▸ List.nil_prefix)] at hul1
    exact not_UL_loadAbove hw hdp hul1

/-- **iteration is complete**: every key under the prefix at which the index means something — explicitly, or
    through an unloaded directory object at, above or below the prefix — is yielded with exactly that meaning -/
theorem iterItems_complete (load : Oid → Option Listing) (hlo : ListingsOK load) (idx : LIndex) (hw : W1 idx)
    (pfx k : Key) (hk : pfx <+: k) (v : Bool × Option Oid) (hv : denote load idx k = some v) :
    ∃ e, (k, e) ∈ (iterItems load idx pfx).2 ∧ proj e = v := by
  rw [← (iterItems_preserves load hlo idx hw pfx).2 k] at hv
  cases hl : (iterItems load idx pfx).1.lookup k with
  | some e =>
    rw [denote_of_lookup hl] at hv
    exact ⟨e, mem_iterItems.mpr ⟨mem_of_lookup hl, hk⟩, Option.some.inj hv⟩
  | none =>
    -- unbound after the iteration, the meaning would have to come from a directory still unloaded
    obtain ⟨d, hdk, hul⟩ := exists_UL_of_denote hl (by rw [hv]; rfl)
    exact absurd hul (not_UL_iterItems hw hk hdk)

/-- what an iteration yields, up to kind and hash: exactly the meaning of the index under the prefix -/
theorem iterItems_exact (load : Oid → Option Listing) (hlo : ListingsOK load) (idx : LIndex) (hw : W1 idx)
    (hwf : AList.WF idx) (pfx k : Key) (v : Bool × Option Oid) :
    (∃ e, (k, e) ∈ (iterItems load idx pfx).2 ∧ proj e = v) ↔ (pfx <+: k ∧ denote load idx k = some v) := by
  constructor
  · rintro ⟨e, he, rfl⟩
    exact iterItems_sound load hlo idx hw hwf pfx (k, e) he
  · rintro ⟨hk, hv⟩
    exact iterItems_complete load hlo idx hw pfx k hk v hv

theorem Loads.iterItems_exact {load : Oid → Option Listing} {idx i : LIndex} (h : Loads load idx i)
    (hlo : ListingsOK load) (hw : W1 idx) (hwf : AList.WF idx) (pfx k : Key) (v : Bool × Option Oid) :
    (∃ e, (k, e) ∈ (iterItems load i pfx).2 ∧ proj e = v) ↔ (pfx <+: k ∧ denote load idx k = some v) := by
  obtain ⟨hwi, hdi⟩ := h.preserves hlo hw
  rw [IndexLazy.iterItems_exact load hlo i hwi (h.wf hwf), hdi]

/-- whatever directories were loaded before (`ks`, in any order - by lookups, listings or other iterations), an
    iteration under a prefix still yields only what the original index means there -/
theorem iterItems_after_lookups (load : Oid → Option Listing) (hlo : ListingsOK load) (idx : LIndex) (hw : W1 idx)
    (hwf : AList.WF idx) (ks : List Key) (pfx : Key) (p : Key × LEntry)
    (hp : p ∈ (iterItems load (ks.foldl (loadAt load) idx) pfx).2) :
    pfx <+: p.1 ∧ denote load idx p.1 = some (proj p.2) :=
  ((Loads.foldl ks).iterItems_exact hlo hw hwf pfx p.1 (proj p.2)).mp ⟨p.2, hp, rfl⟩

/-- **C17 (iteration, lazy = expanded).** Iterating under any prefix yields the same keys with the same kinds and
    hashes on the lazy index as on the fully expanded one — and also after any lookups loaded parts of it. -/
theorem iteration_lazy_eq_expanded (load : Oid → Option Listing) (hlo : ListingsOK load) (idx : LIndex) (hw : W1 idx)
    (hwf : AList.WF idx) (ks : List Key) (pfx k : Key) (v : Bool × Option Oid) :
    (∃ e, (k, e) ∈ (iterItems load (ks.foldl (loadAt load) idx) pfx).2 ∧ proj e = v) ↔
    (∃ e, (k, e) ∈ (iterItems load (expand load idx) pfx).2 ∧ proj e = v) :=
  ((Loads.foldl ks).iterItems_exact hlo hw hwf pfx k v).trans
    ((expand_loads load idx).iterItems_exact hlo hw hwf pfx k v).symm

/-! ### listing the children of a key -/

/-- the index `ls(k)` leaves behind keeps the meaning -/
theorem lsAt_preserves (load : Oid → Option Listing) (hlo : ListingsOK load) (idx : LIndex) (hw : W1 idx) (k : Key) :
    W1 (loadAt load (getItem load idx k).1 k) ∧
    ∀ q, denote load (loadAt load (getItem load idx k).1 k) q = denote load idx q :=
  ((getItem_loads load idx k).step k).preserves hlo hw

theorem lsAt_eq_none_iff {load : Oid → Option Listing} {idx : LIndex} {k : Key} :
    (lsAt load idx k).2 = none ↔ ∀ e ∈ loadAt load (getItem load idx k).1 k, ¬ k <+: e.1 := by
  -- the right-hand side is the Boolean `hasNode` that `lsAt` tests, said element by element
  have hrhs : (∀ e ∈ loadAt load (getItem load idx k).1 k, ¬ k <+: e.1) ↔
      (loadAt load (getItem load idx k).1 k).any (fun e => k.isPrefixOf e.1) = false := by
    rw [List.any_eq_false]
    exact forall₂_congr fun e _ => by rw [List.isPrefixOf_iff_prefix]
  rw [hrhs]
  -- `lsAt` is `if !hasNode then (_, none) else (_, some _)`, with `idx1` the first component of `getItem load idx k`
  unfold lsAt
  dsimp only
  generalize (loadAt load (getItem load idx k).1 k).any (fun e => k.isPrefixOf e.1) = hasNode
  cases hasNode with
  | false => exact ⟨fun _ => rfl, fun _ => rfl⟩
  | true => exact ⟨nofun, nofun⟩

theorem mem_lsAt {load : Oid → Option Listing} {idx : LIndex} {k : Key} {names : List Key}
    (h : (lsAt load idx k).2 = some names) (x : Key) :
    x ∈ names ↔ ∃ e ∈ loadAt load (getItem load idx k).1 k, ∃ p rest, e.1 = k ++ p :: rest ∧ x = k ++ [p] := by
  unfold lsAt at h
  dsimp only at h
  split at h
  · cases h
  · cases h
    simp only [mem_foldl_insertSet, List.not_mem_nil, false_or, List.mem_filterMap]
    refine exists_congr fun e => and_congr_right fun _ => ?_
    constructor
    · intro hx
      split at hx
      · next p rest hs => cases hx; exact ⟨p, rest, stripPrefix_eq_some.mp hs, rfl⟩
      · cases hx
    · rintro ⟨p, rest, he, rfl⟩
      rw [stripPrefix_eq_some.mpr he]

/-- wherever the index means something at or below `k`, the index `ls(k)` works on has an explicit key
    between `k` and that key — strictly below `k` if the key is -/
theorem lsAt_explicit_between (load : Oid → Option Listing) (hlo : ListingsOK load) (idx : LIndex) (hw : W1 idx)
    (k q : Key) (hkq : k <+: q) (hq : (denote load idx q).isSome = true) :
    ∃ d, ((loadAt load (getItem load idx k).1 k).lookup d).isSome = true ∧ k <+: d ∧ d <+: q ∧ (q ≠ k → d ≠ k) := by
  rw [← (lsAt_preserves load hlo idx hw k).2 q] at hq
  cases hl : (loadAt load (getItem load idx k).1 k).lookup q with
  | some e => exact ⟨q, by rw [hl]; rfl, hkq, List.prefix_refl q, id⟩
  | none =>
    -- unbound, `q` gets its meaning from a directory `d` above it that is still unloaded: the lookup of `k` has loaded
    -- those above `k`, and `k` itself was loaded last, so `d` lies strictly below `k`
    obtain ⟨d, hdq, hul⟩ := exists_UL_of_denote hl hq
    obtain ⟨hul1, hne⟩ := loadAt_UL load _ k d hul
    rcases List.prefix_or_prefix_of_prefix hkq hdq with hkd | hdk
    · obtain ⟨e, he, _⟩ := hul
      exact ⟨d, by rw [he]; rfl, hkd, hdq, fun _ => hne⟩
    · exact absurd (getItem_no_UL_above load idx hw k d hul1 hdk) hne

/-- **C17 (listing).** `ls(k)` on a lazy index names exactly the first path components below `k` under which
    the index means something — whether the entries there are explicit or come from directory objects at,
    above or below `k` -/
theorem lsAt_exact (load : Oid → Option Listing) (hlo : ListingsOK load) (idx : LIndex) (hw : W1 idx) (k : Key)
    (names : List Key) (h : (lsAt load idx k).2 = some names) (x : Key) :
    x ∈ names ↔ ∃ p rest, x = k ++ [p] ∧ (denote load idx (k ++ p :: rest)).isSome = true := by
  rw [mem_lsAt h]
  constructor
  · rintro ⟨e, he, p, rest, hek, rfl⟩
    obtain ⟨v, hv⟩ := Option.isSome_iff_exists.mp
      ((lookup_isSome_iff_mem_keys _ e.1).mpr (List.mem_map.mpr ⟨e, he, rfl⟩))
    refine ⟨p, rest, rfl, ?_⟩
    rw [← hek, ← (lsAt_preserves load hlo idx hw k).2 e.1, denote_of_lookup hv]
    rfl
  · rintro ⟨p, rest, rfl, hq⟩
    obtain ⟨d, hexp, ⟨r, rfl⟩, hdq, hne⟩ := lsAt_explicit_between load hlo idx hw k (k ++ p :: rest)
      (List.prefix_append k _) hq
    obtain ⟨v, hv⟩ := Option.isSome_iff_exists.mp hexp
    -- the explicit key is `k ++ r` with `r` a non-empty prefix of `p :: rest`, so it starts with `p`
    cases r with
    | nil => exact absurd (List.append_nil k) (hne (strict_below_ne k _ (List.cons_ne_nil p rest)))
    | cons a t =>
      obtain ⟨rfl, _⟩ := List.cons_prefix_cons.mp ((List.prefix_append_right_inj k).mp hdq)
      exact ⟨(k ++ a :: t, v), mem_of_lookup hv, a, t, rfl, rfl⟩

/-- `ls(k)` answers "no such directory" only when the index means nothing at or below `k` -/
theorem lsAt_none (load : Oid → Option Listing) (hlo : ListingsOK load) (idx : LIndex) (hw : W1 idx) (k : Key)
    (h : (lsAt load idx k).2 = none) (rest : Key) : denote load idx (k ++ rest) = none := by
  cases hq : denote load idx (k ++ rest) with
  | none => rfl
  | some v =>
    obtain ⟨d, hexp, hkd, _, _⟩ := lsAt_explicit_between load hlo idx hw k (k ++ rest)
      (List.prefix_append k _) (by rw [hq]; rfl)
    obtain ⟨e, he⟩ := Option.isSome_iff_exists.mp hexp
    exact absurd hkd (lsAt_eq_none_iff.mp h (d, e) (mem_of_lookup he))

/-! ### filtered views -/

/-- **a filtered view exposes precisely the entries (of the expanded index) whose keys satisfy
    the filter** -/
theorem view_exact (load : Oid → Option Listing) (idx : LIndex) (f : Key → Bool) (p : Key × LEntry) :
    p ∈ viewItems load idx f ↔ (p ∈ expand load idx ∧ f p.1 = true) := by
  simp [viewItems, List.mem_filter]

/-- **C17 (views under a prefix).** A filtered view iterated under a prefix yields exactly the keys under the prefix
    that the filter accepts and at which the index means something - also when the prefix lies strictly inside a directory
    held as one unloaded entry (the case the unrepaired view answered with `KeyError`, F23) -/
theorem viewIter_exact (load : Oid → Option Listing) (hlo : ListingsOK load) (idx : LIndex) (hw : W1 idx)
    (hwf : AList.WF idx) (f : Key → Bool) (pfx k : Key) (v : Bool × Option Oid) :
    (∃ e, (k, e) ∈ (viewIter load idx f pfx).2 ∧ proj e = v) ↔
      (pfx <+: k ∧ f k = true ∧ denote load idx k = some v) := by
  have h := iterItems_exact load hlo idx hw hwf pfx k v
  simp only [viewIter, List.mem_filter]
  constructor
  · rintro ⟨e, ⟨hm, hf⟩, hp⟩
    obtain ⟨h1, h2⟩ := h.mp ⟨e, hm, hp⟩
    exact ⟨h1, hf, h2⟩
  · rintro ⟨h1, hf, h2⟩
    obtain ⟨e, hm, hp⟩ := h.mpr ⟨h1, h2⟩
    exact ⟨e, ⟨hm, hf⟩, hp⟩

/-- ... and leaves the meaning of the index as it was -/
theorem viewIter_preserves (load : Oid → Option Listing) (hlo : ListingsOK load) (idx : LIndex) (hw : W1 idx)
    (f : Key → Bool) (pfx : Key) :
    W1 (viewIter load idx f pfx).1 ∧ ∀ k, denote load (viewIter load idx f pfx).1 k = denote load idx k :=
  iterItems_preserves load hlo idx hw pfx

/-! non-vacuity: an index with an unloaded directory object `d` listing `a` and `s/b` -/
def exLoad : Oid → Option Listing := fun o => if o = "t.dir" then some [([['a']], "1"), ([['s'], ['b']], "2")] else none
def exIdx : LIndex := [([['d']], { isdir := true, hash := some "t.dir", loaded := false }), ([['f']], { isdir := false, hash := some "9", loaded := true })]

example : (runGets exLoad exIdx [[['d'], ['s'], ['b']], [['d'], ['s']], [['f']], [['d'], ['x']]]).2 =
    [some (false, some "2"), some (true, none), some (false, some "9"), none] := by decide

/-- iterating under `d/s` (strictly inside the unloaded directory object) yields exactly `d/s` and `d/s/b` -/
example : (iterItems exLoad exIdx [['d'], ['s']]).2.map (fun p => (p.1, proj p.2)) =
    [([['d'], ['s'], ['b']], (false, some "2")), ([['d'], ['s']], (true, none))] := by decide

/-- listing the unloaded directory names `d/a` and `d/s`; listing strictly inside it names `d/s/b` -/
example : (lsAt exLoad exIdx [['d']]).2 = some [[['d'], ['a']], [['d'], ['s']]] ∧
    (lsAt exLoad exIdx [['d'], ['s']]).2 = some [[['d'], ['s'], ['b']]] ∧
    (lsAt exLoad exIdx [['z']]).2 = none := by decide

example : AList.WF exIdx := by decide

example : ListingsOK exLoad := by
  intro o l h e he
  unfold exLoad at h
  split at h
  · cases h
    simp at he
    rcases he with rfl | rfl <;> simp
  · cases h

example : W1 exIdx := by
  intro d e hd hc q hq hdq
  obtain ⟨v, hv⟩ := Option.isSome_iff_exists.mp hq
  have hd' := mem_of_lookup hd
  have hq' := mem_of_lookup hv
  simp only [exIdx, List.mem_cons, Prod.mk.injEq, List.not_mem_nil, or_false] at hd' hq'
  -- the only unloaded directory is `d`, and the other key, `f`, does not lie below it
  rcases hd' with ⟨rfl, rfl⟩ | ⟨rfl, rfl⟩
  · rcases hq' with ⟨rfl, _⟩ | ⟨rfl, _⟩
    · rfl
    · simp at hdq
  · simp at hc

example : (viewIter exLoad exIdx (fun k => k != [['d'], ['a']]) [['d'], ['s']]).2.map (fun p => (p.1, proj p.2)) =
    [([['d'], ['s'], ['b']], (false, some "2")), ([['d'], ['s']], (true, none))] := by decide

end DvcData.IndexLazy

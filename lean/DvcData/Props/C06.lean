import DvcData.Proofs.Sets
/-!
# C06 — garbage collection removes exactly the unused objects and never a used one
-/
namespace DvcData.Status
open DvcData

variable {Oid : Type} [DecidableEq Oid] {Name : Type} [DecidableEq Name]

theorem gcUsed_cons {env : Env Oid} {hn n : Name} {sh : Bool} {v : Oid} {r : List (Name × Oid)} {acc keep : List Oid}
    (h : gcUsed env hn sh ((n, v) :: r) acc = some keep) :
    gcUsed env hn sh r (if n = hn then union (insertSet acc v) (listed env sh v) else acc) = some keep := by
  unfold gcUsed at h
  by_cases hne : n = hn
  · simp only [hne, ne_eq, not_true_eq_false, if_false, if_true] at h ⊢
    unfold listed
    split at h
    · next hd =>
      rw [if_pos hd]
      split at h
      · cases h
      · next es hl => rw [hl]; exact h
    · next hd => rw [if_neg hd]; exact h
  · simpa only [hne, ne_eq, not_false_eq_true, if_true, if_false] using h

/-- the specification of `keep` in `gc_exact`, `gc_dry_noop`, `gc_removes_unused`: the used identifiers of the store's own
    algorithm and what they list - identifiers of another algorithm add nothing -/
theorem mem_gcUsed (env : Env Oid) (hn : Name) (sh : Bool) (x : Oid) : ∀ (used : List (Name × Oid)) (acc keep : List Oid),
    gcUsed env hn sh used acc = some keep →
      (x ∈ keep ↔ x ∈ acc ∨ ∃ v, (hn, v) ∈ used ∧ (x = v ∨ x ∈ listed env sh v))
  | [], acc, keep, h => by cases h; simp
  | (n, v) :: r, acc, keep, h => by
    rw [mem_gcUsed env hn sh x r _ keep (gcUsed_cons h)]
    -- now the left side speaks of `r` and the new accumulator (`acc ∪ {v} ∪ listed v` if `n = hn`, else `acc`), the right side of
    -- `acc` and `(n, v) :: r`
    by_cases hne : n = hn
    · subst hne
      -- `mem_union`, `mem_insertSet` open the accumulator; `mem_cons`, `Prod.mk.injEq`, `exists_eq_or_imp` split the pairs
      -- `(n, w) ∈ (n, v) :: r` into `w = v` and the pairs of `r`; `or_assoc` orders the disjuncts alike
      simp only [if_true, mem_union, mem_insertSet, List.mem_cons, Prod.mk.injEq, true_and, exists_eq_or_imp, or_assoc]
    · -- another algorithm: the accumulator is `acc`, and no `(hn, w)` is the head (`this`), so `mem_cons` leaves the pairs of `r`
      have : ∀ w, ¬ (hn = n ∧ w = v) := fun w hw => hne hw.1.symm
      simp only [hne, if_false, List.mem_cons, Prod.mk.injEq, this, false_or]

/-- a read-only store is refused -/
theorem gc_readonly_refused (env : Env Oid) (hn : Name) (sh dry : Bool) (store : List Oid)
    (used : List (Name × Oid)) : gc env hn true sh dry store used = .permission := by
  simp [gc]

theorem filter_partition_length {α : Type} (p : α → Bool) (l : List α) :
    (l.filter p).length + (l.filter fun x => !p x).length = l.length := by
  rw [← List.countP_eq_length_filter, ← List.countP_eq_length_filter]
  simpa using (List.length_eq_countP_add_countP p (l := l)).symm

/-- what an accepted run returns, dry or not, in terms of the `keep` that `gcUsed` computes (`mem_gcUsed` says what that is);
    the theorems about `gc` below are read off it -/
theorem gc_ok {env : Env Oid} {hn : Name} {sh dry : Bool} {store : List Oid} {used : List (Name × Oid)}
    {n : Nat} {s' : List Oid} (h : gc env hn false sh dry store used = .ok n s') :
    ∃ keep, gcUsed env hn sh used [] = some keep ∧ n = (store.filter (· ∉ keep)).length ∧
      s' = if dry then store else store.filter (· ∈ keep) := by
  simp only [gc, Bool.false_eq_true, if_false] at h
  split at h
  · cases h
  · next keep hk =>
    -- the unused objects are counted as directories plus files
    have hlen := filter_partition_length env.isDir (store.filter (· ∉ keep))
    refine ⟨keep, hk, ?_⟩
    cases dry <;> simp only [if_true, if_false, Bool.false_eq_true] at h ⊢ <;> obtain ⟨rfl, rfl⟩ := GcRes.ok.inj h
    · -- a real run: without the unused directories and the unused files, the kept objects are left
      refine ⟨hlen, List.filter_congr fun o ho => ?_⟩
      by_cases hkp : o ∈ keep <;> simp [hkp, ho]
    · exact ⟨hlen, rfl⟩

/-- a dry run removes nothing (and reports the number it would remove) -/
theorem gc_dry_noop (env : Env Oid) (hn : Name) (sh : Bool) (store : List Oid) (used : List (Name × Oid))
    (n : Nat) (s' : List Oid) (h : gc env hn false sh true store used = .ok n s') :
    s' = store ∧ ∃ keep, gcUsed env hn sh used [] = some keep ∧ n = (store.filter (· ∉ keep)).length := by
  obtain ⟨keep, hk, hn', hs⟩ := gc_ok h
  exact ⟨hs, keep, hk, hn'⟩

/-- **exactness**: a real run leaves exactly the kept objects and returns the number of the others -/
theorem gc_exact (env : Env Oid) (hn : Name) (sh : Bool) (store : List Oid) (used : List (Name × Oid))
    (n : Nat) (s' : List Oid) (h : gc env hn false sh false store used = .ok n s') :
    ∃ keep, gcUsed env hn sh used [] = some keep ∧
      s' = store.filter (· ∈ keep) ∧ n = (store.filter (· ∉ keep)).length := by
  obtain ⟨keep, hk, hn', hs⟩ := gc_ok h
  exact ⟨keep, hk, hs, hn'⟩

theorem gc_keeps {env : Env Oid} {hn : Name} {sh dry : Bool} {store : List Oid} {used : List (Name × Oid)}
    {n : Nat} {s' : List Oid} (h : gc env hn false sh dry store used = .ok n s') {v x : Oid} (hu : (hn, v) ∈ used)
    (hx : x = v ∨ x ∈ listed env sh v) (hs : x ∈ store) : x ∈ s' := by
  obtain ⟨keep, hk, _, rfl⟩ := gc_ok h
  have : x ∈ keep := (mem_gcUsed env hn sh x used [] keep hk).mpr (Or.inr ⟨v, hu, hx⟩)
  split
  · exact hs
  · exact List.mem_filter.mpr ⟨hs, by simpa using this⟩

/-- **a used object is never removed** -/
theorem gc_keeps_used (env : Env Oid) (hn : Name) (sh dry : Bool) (store : List Oid)
    (used : List (Name × Oid)) (n : Nat) (s' : List Oid)
    (h : gc env hn false sh dry store used = .ok n s') (v : Oid) (hu : (hn, v) ∈ used) (hs : v ∈ store) :
    v ∈ s' :=
  gc_keeps h hu (Or.inl rfl) hs

/-- **nor any file listed by a used directory object, when asked to expand** -/
theorem gc_keeps_listed (env : Env Oid) (hn : Name) (dry : Bool) (store : List Oid)
    (used : List (Name × Oid)) (n : Nat) (s' : List Oid)
    (h : gc env hn false false dry store used = .ok n s') (d : Oid) (es : List Oid) (f : Oid)
    (hu : (hn, d) ∈ used) (hd : env.isDir d = true) (hl : env.load d = some es) (hf : f ∈ es)
    (hs : f ∈ store) : f ∈ s' :=
  gc_keeps h hu (Or.inr (mem_listed.mpr ⟨rfl, hd, es, hl, hf⟩)) hs

/-- every object that is not kept is removed: identifiers of another algorithm protect nothing -/
theorem gc_removes_unused (env : Env Oid) (hn : Name) (sh : Bool) (store : List Oid)
    (used : List (Name × Oid)) (n : Nat) (s' : List Oid)
    (h : gc env hn false sh false store used = .ok n s') (keep : List Oid)
    (hk : gcUsed env hn sh used [] = some keep) (o : Oid) (ho : o ∉ keep) : o ∉ s' := by
  obtain ⟨keep', hk', _, rfl⟩ := gc_ok h
  cases hk.symm.trans hk'
  simp [ho]

/-- **a dry run touches nothing at all** — not the objects (`gc_dry_noop`) and not the `.unpacked` leftovers next to
    directory objects either (the unrepaired code removed those while listing, F16) -/
theorem gc_dry_leftovers_untouched (env : Env Oid) (hn : Name) (ro sh : Bool) (store : List Oid)
    (used : List (Name × Oid)) (extras : List Oid) : gcLeftovers env hn ro sh true store used extras = extras := by
  simp [gcLeftovers]

/-- a refused run (read-only store) touches none either -/
theorem gc_readonly_leftovers_untouched (env : Env Oid) (hn : Name) (sh dry : Bool) (store : List Oid)
    (used : List (Name × Oid)) (extras : List Oid) : gcLeftovers env hn true sh dry store used extras = extras := by
  unfold gcLeftovers
  cases dry
  · simp [gc_readonly_refused]
  · simp

/-- a real run takes a leftover along exactly when it removes the directory object it sits next to: a leftover of a
    kept (used) directory object, or of something that is no stored directory object, stays -/
theorem gc_leftover_follows_object (env : Env Oid) (hn : Name) (sh : Bool) (store : List Oid)
    (used : List (Name × Oid)) (extras : List Oid) (n : Nat) (s' : List Oid)
    (h : gc env hn false sh false store used = .ok n s') (o : Oid) :
    o ∈ gcLeftovers env hn false sh false store used extras ↔
      (o ∈ extras ∧ ¬ (o ∈ store ∧ env.isDir o = true ∧ o ∉ s')) := by
  unfold gcLeftovers
  simp only [Bool.false_eq_true, if_false, h, List.mem_filter]
  -- the filter's test, `!(o ∈ store && isDir o) || o ∈ s'`, read as a proposition
  refine and_congr_right fun _ => ?_
  simp only [Bool.or_eq_true, Bool.not_eq_true', Bool.and_eq_false_imp, List.contains_iff_mem, not_and, Decidable.not_not]
  by_cases hs : o ∈ s' <;> simp [hs]

/-! non-vacuity -/
example : gc (Oid := Nat) (Name := Nat) { isDir := fun o => o ≥ 10, load := fun d => if d = 10 then some [1, 2] else none }
    0 false false false [1, 2, 3, 10, 11] [(0, 10), (1, 3)] = .ok 2 [1, 2, 10] := by decide

end DvcData.Status

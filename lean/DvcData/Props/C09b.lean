import DvcData.Props.C09
/-!
# C09 — end to end: `apply (compare ws target)` makes the workspace hold the target's files

`ws` is the workspace, `T` the target, `acts ws T` what `compare` schedules; in names `fd`, `dd`, `fc`, `dc` stand for its
lists `filesDelete`, `dirsDelete`, `filesCreate`, `dirsCreate`.  The deletion phases remove exactly the scheduled nodes
(`ws2_lookup`), which gives the invariant `Mid` (`mid_ws2`); the creation phases change a node only in the ways `Evolves`
lists, and `Mid` is stable under those (`Mid.evolves`).  `apply_acts` is the one run of `apply` that
`apply_compare_converges`, `apply_compare_exec` and C09c read.  The phase lemmas that come first (`removePath`, `rmdir`,
`makedirs`, `createFile`, `chmodFile`, and `diffEntry` on two entries) do not depend on the rest.
-/
namespace DvcData.IndexCheckout
open DvcData Path MetaInfo IndexDiff List

/-! ### phases 1 and 2: files, then directories scheduled for deletion -/

theorem removePath_lookup (w : Ws) (p k : Key) :
    (removePath w p).lookup k = if p <+: k then none else w.lookup k := by
  unfold removePath
  rw [AList.lookup_filter_key w (fun x => !(p.isPrefixOf x)) k]
  by_cases h : p <+: k
  · simp [h, List.isPrefixOf_iff_prefix.mpr h]
  · simp [h, Bool.eq_false_iff.mpr (mt List.isPrefixOf_iff_prefix.mp h)]

theorem foldl_removePath_lookup (ps : List Key) (w : Ws) (k : Key) :
    (ps.foldl removePath w).lookup k = if ∃ p ∈ ps, p <+: k then none else w.lookup k := by
  induction ps generalizing w with
  | nil => simp
  | cons a r ih =>
    simp only [List.foldl_cons, ih, removePath_lookup, List.mem_cons, exists_eq_or_imp]
    by_cases h1 : ∃ p, p ∈ r ∧ p <+: k
    · simp [h1]
    · by_cases h2 : a <+: k <;> simp [h1, h2]

theorem foldl_rmdir_lookup_not_mem (l : List Key) : ∀ (w : Ws) (k : Key), k ∉ l → (l.foldl rmdir w).lookup k = w.lookup k :=
  fun w k hk => List.foldlRecOn (motive := fun w' => w'.lookup k = w.lookup k) l rmdir rfl fun w' hw' a ha =>
    (rmdir_lookup_ne w' a k fun e => hk (e ▸ ha)).trans hw'

/-! ### phases 3 and 4: directories and files are created -/

/-- the step of `makedirs`' fold under a name: `makedirs w k` unfolds to `(prefixes k).foldlM mkdirStep w` -/
def mkdirStep (w : Ws) (p : Key) : Option Ws :=
  match w.lookup p with
  | some .dir => some w
  | some (.file ..) => none
  | none => some (w ++ [(p, .dir)])

def notFile (w : Ws) (p : Key) : Prop := ∀ oid ex, w.lookup p ≠ some (.file oid ex)

theorem mkdirStep_lookup {w w1 : Ws} {p : Key} (h : mkdirStep w p = some w1) (q : Key) :
    w1.lookup q = (w.lookup q).or (if p = q then some .dir else none) := by
  revert h
  fun_cases mkdirStep w p <;> intro h <;> cases h
  · next hp =>
    by_cases e : p = q
    · rw [← e, hp]; rfl
    · rw [if_neg e, Option.or_none]
  · rw [AList.lookup_append]; rfl

theorem mkdirStep_isSome (w : Ws) (p : Key) (h : notFile w p) : ∃ w1, mkdirStep w p = some w1 := by
  fun_cases mkdirStep w p
  · exact ⟨_, rfl⟩
  · next oid ex hp => exact absurd hp (h oid ex)
  · exact ⟨_, rfl⟩

/-- creating a chain of directories: succeeds unless a file is in the way; existing nodes stay, the
    missing ones become directories -/
theorem foldlM_mkdir_spec : ∀ (ps : List Key) (w : Ws), (∀ p ∈ ps, notFile w p) →
    ∃ w', ps.foldlM mkdirStep w = some w' ∧
      ∀ q, w'.lookup q = match w.lookup q with
        | some n => some n
        | none => if q ∈ ps then some .dir else none := by
  intro ps
  induction ps with
  | nil => intro w _; exact ⟨w, rfl, fun q => by cases w.lookup q <;> simp⟩
  | cons p r ih =>
    intro w hfree
    obtain ⟨w1, h1⟩ := mkdirStep_isSome w p (hfree p (by simp))
    have hl := mkdirStep_lookup h1
    -- a file after the step was a file before it
    obtain ⟨w', h2, h3⟩ := ih w1 fun p' hp' oid ex h => by
      rw [hl] at h
      cases hw : w.lookup p' with
      | some n => rw [hw] at h; exact hfree p' (mem_cons_of_mem _ hp') oid ex (hw.trans h)
      | none => rw [hw] at h; simp only [Option.none_or] at h; split at h <;> cases h
    refine ⟨w', by rw [List.foldlM_cons, h1]; exact h2, fun q => ?_⟩
    rw [h3 q, hl q]
    cases hq : w.lookup q with
    | some n => rfl
    | none => by_cases e : p = q <;> simp [e, eq_comm]

theorem mem_prefixes (k q : Key) : q ∈ prefixes k ↔ q ≠ [] ∧ q <+: k := by
  unfold prefixes
  simp only [List.mem_map, List.mem_range]
  constructor
  · rintro ⟨i, hi, rfl⟩
    refine ⟨?_, List.take_prefix _ _⟩
    intro h
    have := congrArg List.length h
    simp only [List.length_take, List.length_nil] at this
    omega
  · rintro ⟨hne, hpre⟩
    have hpos : 0 < q.length := List.length_pos_iff.mpr hne
    refine ⟨q.length - 1, by have := hpre.length_le; omega, ?_⟩
    rw [Nat.sub_add_cancel hpos]
    exact (List.prefix_iff_eq_take.mp hpre).symm

/-- `makedirs`: nothing that exists changes; the missing non-empty prefixes become directories -/
theorem makedirs_spec (w : Ws) (k : Key) (hfree : ∀ q, q ≠ [] → q <+: k → notFile w q) :
    ∃ w', makedirs w k = some w' ∧
      ∀ q, w'.lookup q = match w.lookup q with
        | some n => some n
        | none => if q ≠ [] ∧ q <+: k then some .dir else none := by
  obtain ⟨w', h1, h2⟩ := foldlM_mkdir_spec (prefixes k) w
    (fun p hp => hfree p ((mem_prefixes k p).mp hp).1 ((mem_prefixes k p).mp hp).2)
  refine ⟨w', h1, fun q => ?_⟩  -- `h1` is about `makedirs w k` by unfolding it
  rw [h2 q]
  cases w.lookup q with
  | some n => rfl
  | none => simp only [mem_prefixes]

theorem not_prefix_dropLast (k q : Key) (hq : q <+: k.dropLast) (hne : q ≠ []) : k ≠ q := by
  intro e
  subst e
  have := hq.length_le
  have := List.length_pos_iff.mpr hne
  simp only [List.length_dropLast] at *
  omega

/-- creating one file whose object is cached: the parents appear, the file holds the object -/
theorem createFile_ok (cache : List Str) (w : Ws) (errs : List Key) (k : Key) (n : Entry) (h : HashInfo) (oid : Str)
    (hh : n.hashInfo = some h) (hv : h.value = some oid) (ht : h.truthy = true) (hc : cache.contains oid = true)
    (hfree : ∀ q, q ≠ [] → q <+: k.dropLast → notFile w q) (hnd : w.lookup k ≠ some .dir) :
    ∃ w', createFile cache (w, errs) (k, n) = (w', errs) ∧
      ∀ q, w'.lookup q = if k = q then some (.file oid false) else
        match w.lookup q with
        | some x => some x
        | none => if q ≠ [] ∧ q <+: k.dropLast then some .dir else none := by
  obtain ⟨w1, h1, h2⟩ := makedirs_spec w k.dropLast hfree
  have hk1 : w1.lookup k ≠ some .dir := by
    rw [h2 k]
    cases hw : w.lookup k with
    | some x => simpa [hw] using hnd
    | none =>
      simp only
      split
      · next hc' => exact absurd rfl (not_prefix_dropLast k k hc'.2 hc'.1)
      · simp
  refine ⟨w1.set k (.file oid false), ?_, fun q => ?_⟩
  · unfold createFile
    simp only [hh, hv, ht, Bool.not_true, Bool.false_eq_true, if_false, h1, hc]
  · rw [AList.lookup_set, h2 q]

theorem createFile_cases (cache : List Str) (acc : Ws × List Key) (p : Key × Entry) :
    createFile cache acc p = (acc.1, acc.2 ++ [p.1]) ∨
    ∃ w1, makedirs acc.1 p.1.dropLast = some w1 ∧
      (createFile cache acc p = (w1, acc.2 ++ [p.1]) ∨
        ∃ h oid, p.2.hashInfo = some h ∧ h.value = some oid ∧ h.truthy = true ∧ cache.contains oid = true ∧
          createFile cache acc p = (w1.set p.1 (.file oid false), acc.2)) := by
  fun_cases createFile cache acc p
  · exact .inl rfl
  · exact .inl rfl
  · exact .inl rfl
  · exact .inl rfl
  · next hm _ => exact .inr ⟨_, hm, .inl rfl⟩
  · next hm _ _ => exact .inr ⟨_, hm, .inl rfl⟩
  · next hh _ hv ht _ hm hc _ =>
    exact .inr ⟨_, hm, .inr ⟨_, _, hh, hv, by simpa using ht, by simpa using hc, rfl⟩⟩

theorem chmodFile_lookup (w : Ws) (p : Key × Entry) (q : Key) :
    (chmodFile w p).lookup q =
      if p.1 = q then (match w.lookup q with | some (.file oid _) => some (.file oid true) | x => x) else w.lookup q := by
  fun_cases chmodFile w p
  · next oid ex hl =>
    rw [AList.lookup_set]
    split
    · next e => rw [← e, hl]
    · rfl
  · next hne =>
    split
    · next e =>
      subst e
      split
      · next heq => exact (hne _ _ heq).elim
      · rfl
    · rfl

/-- the object identifier of the file at `k`, if there is a file -/
def oidAt (w : Ws) (k : Key) : Option Str :=
  match w.lookup k with
  | some (.file oid _) => some oid
  | _ => none

theorem oidAt_congr {w w' : Ws} {k : Key} (h : w'.lookup k = w.lookup k) : oidAt w' k = oidAt w k := by
  unfold oidAt; rw [h]

theorem oidAt_some (w : Ws) (k : Key) (h : oidAt w k ≠ none) : ∃ oid ex, w.lookup k = some (.file oid ex) := by
  revert h
  fun_cases oidAt w k
  · next oid ex hl => exact fun _ => ⟨oid, ex, hl⟩
  · exact fun h => (h rfl).elim

/-- `chmod` keeps a file a file with its content, and never clears the bit -/
theorem foldl_chmod_lookup (ps : List (Key × Entry)) (w : Ws) (q : Key) :
    (ps.foldl chmodFile w).lookup q = match w.lookup q with
      | some (.file oid ex) => some (.file oid (ex || ps.any fun p => decide (p.1 = q)))
      | x => x := by
  induction ps generalizing w with
  | nil =>
    cases h : w.lookup q with
    | none => exact h
    | some n => cases n <;> simp [h]
  | cons p r ih =>
    rw [List.foldl_cons, ih, chmodFile_lookup]
    cases h : w.lookup q with
    | none => by_cases e : p.1 = q <;> simp [e]
    | some n => cases n <;> by_cases e : p.1 = q <;> simp [e]

theorem foldl_chmod_oidAt (ps : List (Key × Entry)) : ∀ (w : Ws) (k : Key), oidAt (ps.foldl chmodFile w) k = oidAt w k :=
  fun w k => by
    unfold oidAt
    rw [foldl_chmod_lookup]
    cases w.lookup k with
    | none => rfl
    | some n => cases n <;> rfl

/-- .. read at a file: it stays a file with its object, and has the bit if it had it or its key is in the list -/
theorem foldl_chmod_file : ∀ (ps : List (Key × Entry)) (w : Ws) (k : Key) (oid : Str) (ex : Bool),
    w.lookup k = some (.file oid ex) →
    (ps.foldl chmodFile w).lookup k = some (.file oid (ex || ps.any fun p => decide (p.1 = k))) :=
  fun ps w k oid ex hk => by rw [foldl_chmod_lookup, hk]

/-! ### nodes that the creation phases leave alone, whatever they are given -/

theorem makedirs_keeps {w w' : Ws} {d : Key} (h : makedirs w d = some w') (k : Key) (n : Node)
    (hk : w.lookup k = some n) : w'.lookup k = some n :=
  -- `h` is about `(prefixes d).foldlM mkdirStep w` by unfolding `makedirs`
  foldlM_some_rec (motive := fun w => w.lookup k = some n) h hk fun _ _ _ _ hs hw => by
    rw [mkdirStep_lookup hs, hw]; rfl

theorem foldlM_makedirs_keeps : ∀ (ds : List Key) (w w' : Ws), ds.foldlM makedirs w = some w' → ∀ (k : Key) (n : Node),
    w.lookup k = some n → w'.lookup k = some n :=
  fun _ _ _ h k n hk => foldlM_some_rec (motive := fun w => w.lookup k = some n) h hk
    fun _ _ _ _ hs hw => makedirs_keeps hs k n hw

theorem foldl_createFile_keeps (cache : List Str) : ∀ (ps : List (Key × Entry)) (acc : Ws × List Key) (k : Key) (n : Node),
    (∀ p ∈ ps, p.1 ≠ k) → acc.1.lookup k = some n → (ps.foldl (createFile cache) acc).1.lookup k = some n :=
  fun ps _ k n hne hk => List.foldlRecOn (motive := fun acc : Ws × List Key => acc.1.lookup k = some n) ps _ hk fun acc hacc p hp => by
    rcases createFile_cases cache acc p with h | ⟨w1, hm, h | ⟨_, oid, _, _, _, _, h⟩⟩ <;> rw [h]
    · exact hacc
    · exact makedirs_keeps hm k n hacc
    · rw [AList.lookup_set_ne (hne p hp)]; exact makedirs_keeps hm k n hacc

/-! ### how `diffEntry` classifies two entries, in the default mode -/

theorem diffEntry_none_some (o : Opts) (ho : o.metaOnly = false) (hh : o.hashOnly = false) (n : Entry) :
    diffEntry o none (some n) = .add := by
  simp [diffEntry, decide3, entryDiffOf, ho, hh]

theorem diffEntry_some_none (o : Opts) (ho : o.metaOnly = false) (hh : o.hashOnly = false) (e : Entry) :
    diffEntry o (some e) none = .delete := by
  simp [diffEntry, decide3, entryDiffOf, ho, hh]

theorem diffEntry_of_meta (o : Opts) (ho : o.metaOnly = false) (hh : o.hashOnly = false) {e n : Entry} {a b : Meta}
    (he : e.mt = some a) (hn : n.mt = some b) :
    diffEntry o (some e) (some n) =
      if cmpMeta o.cmp a b = true ∧ diffHashInfo e.hashInfo n.hashInfo = .unchanged then .unchanged else .modify := by
  -- both entries are there and the old one has metadata, so `decide3` is down to its last three tests: on `diffMeta`
  -- (unchanged or modify, as `cmpMeta` says), the hash difference and whether the old hash is present; by cases on these
  simp only [diffEntry, ho, hh, entryDiffOf, Option.isSome_some, Option.bind_some, he, hn, Option.isNone_some, diffMeta]
  cases cmpMeta o.cmp a b <;> cases diffHashInfo e.hashInfo n.hashInfo <;> cases hiTruthy e.hashInfo <;> rfl

/-- two entries that both carry metadata are never reported as added or deleted -/
theorem diffEntry_some_some (o : Opts) (ho : o.metaOnly = false) (hh : o.hashOnly = false) (e n : Entry)
    (he : e.mt.isSome = true) (hn : n.mt.isSome = true) :
    diffEntry o (some e) (some n) = .unchanged ∨ diffEntry o (some e) (some n) = .modify := by
  obtain ⟨a, ha⟩ := Option.isSome_iff_exists.mp he
  obtain ⟨b, hb⟩ := Option.isSome_iff_exists.mp hn
  rw [diffEntry_of_meta o ho hh ha hb]
  split
  · exact .inl rfl
  · exact .inr rfl

theorem diffEntry_ne_add_delete (o : Opts) (ho : o.metaOnly = false) (hh : o.hashOnly = false) (e n : Entry)
    (he : e.mt.isSome = true) (hn : n.mt.isSome = true) :
    diffEntry o (some e) (some n) ≠ .add ∧ diffEntry o (some e) (some n) ≠ .delete := by
  rcases diffEntry_some_some o ho hh e n he hn with h | h <;> simp [h]

theorem diffEntry_cmp (o n : Entry) (ho : o.mt.isSome = true) (hn : n.mt.isSome = true)
    (hk : isDirE o ≠ isDirE n ∨ isExecE o ≠ isExecE n) :
    diffEntry { cmp := .dirExec } (some o) (some n) = .modify := by
  obtain ⟨a, ha⟩ := Option.isSome_iff_exists.mp ho
  obtain ⟨b, hb⟩ := Option.isSome_iff_exists.mp hn
  rw [diffEntry_of_meta _ rfl rfl ha hb, if_neg]
  rintro ⟨hc, _⟩
  simp only [cmpMeta, Bool.and_eq_true, beq_iff_eq] at hc
  simp only [isDirE, isExecE, ha, hb] at hk
  exact hk.elim (· hc.1) (· hc.2)

/-- entries of different kinds (file / directory) are reported as modified -/
theorem diffEntry_kind (o n : Entry) (ho : o.mt.isSome = true) (hn : n.mt.isSome = true) (hk : isDirE o ≠ isDirE n) :
    diffEntry { cmp := .dirExec } (some o) (some n) = .modify :=
  diffEntry_cmp o n ho hn (.inl hk)

/-- entries differing in the executable bit are reported as modified -/
theorem diffEntry_exec (o n : Entry) (ho : o.mt.isSome = true) (hn : n.mt.isSome = true) (hk : isExecE o ≠ isExecE n) :
    diffEntry { cmp := .dirExec } (some o) (some n) = .modify :=
  diffEntry_cmp o n ho hn (.inr hk)

/-- entries carrying different hashes, the old one truthy, are reported as modified -/
theorem diffEntry_hash (o n : Entry) (ho : o.mt.isSome = true) (hn : n.mt.isSome = true)
    (ht : hiTruthy o.hashInfo = true) (hne : o.hashInfo ≠ n.hashInfo) :
    diffEntry { cmp := .dirExec } (some o) (some n) = .modify := by
  obtain ⟨a, hoa⟩ := Option.isSome_iff_exists.mp ho
  obtain ⟨b, hnb⟩ := Option.isSome_iff_exists.mp hn
  rw [diffEntry_of_meta _ rfl rfl hoa hnb, if_neg]
  exact fun ⟨_, hd⟩ => hne (((diffHashInfo_unchanged_iff _ _).mp hd).2 ht)

/-! ### what `compare` schedules, exactly -/

/-- the shape of a change the diff reports, given that every entry carries metadata -/
theorem change_shape (old new : Option Index)
    (hom : ∀ k e, entryOf old k = some e → e.mt.isSome = true) (hnm : ∀ k e, entryOf new k = some e → e.mt.isSome = true)
    (c : Change) (hc : c ∈ IndexDiff.diff { cmp := .dirExec } old new) :
    ∃ k, (c.typ = .add ∧ c.old = none ∧ ∃ n, c.new = some (k, n) ∧ entryOf old k = none ∧ entryOf new k = some n) ∨
         (c.typ = .delete ∧ c.new = none ∧ ∃ o, c.old = some (k, o) ∧ entryOf old k = some o ∧ entryOf new k = none) ∨
         (c.typ = .modify ∧ ∃ o n, c.old = some (k, o) ∧ c.new = some (k, n) ∧ entryOf old k = some o ∧ entryOf new k = some n) := by
  rw [diff_eq_diffAt _ rfl] at hc
  obtain ⟨k, ht, ho, hn, hsome, hun⟩ := diffAt_sound _ old new _ _ c hc
  refine ⟨k, ?_⟩
  cases hoe : entryOf old k with
  | none =>
    cases hne : entryOf new k with
    | none => simp [hoe, hne] at hsome
    | some n =>
      simp only [hoe, hne, Option.map_none, Option.map_some] at ht ho hn
      exact .inl ⟨ht.trans (diffEntry_none_some _ rfl rfl n), ho, n, hn, rfl, rfl⟩
  | some o =>
    cases hne : entryOf new k with
    | none =>
      simp only [hoe, hne, Option.map_none, Option.map_some] at ht ho hn
      exact .inr (.inl ⟨ht.trans (diffEntry_some_none _ rfl rfl o), hn, o, ho, rfl, rfl⟩)
    | some n =>
      simp only [hoe, hne, Option.map_some] at ht ho hn
      rcases diffEntry_some_some { cmp := .dirExec } rfl rfl o n (hom k o hoe) (hnm k n hne) with h | h
      · exact absurd (hun (ht.trans h)) (by simp)
      · exact .inr (.inr ⟨ht.trans h, o, n, ho, hn, rfl, rfl⟩)

/-- exactly what may be in the action lists (deletion enabled) -/
structure ActInv2 (old new : Option Index) (a : Actions) : Prop where
  fcreate : ∀ p ∈ a.filesCreate, isDirE p.2 = false ∧ entryOf new p.1 = some p.2 ∧
    ∀ o, entryOf old p.1 = some o → (o.hashInfo ≠ p.2.hashInfo ∨ isDirE o ≠ isDirE p.2)
  dcreate : ∀ p ∈ a.dirsCreate, isDirE p.2 = true ∧ entryOf new p.1 = some p.2
  fdelete : ∀ p ∈ a.filesDelete, isDirE p.2 = false ∧ entryOf old p.1 = some p.2 ∧
    ∀ n, entryOf new p.1 = some n → (p.2.hashInfo ≠ n.hashInfo ∨ isDirE p.2 ≠ isDirE n)
  ddelete : ∀ p ∈ a.dirsDelete, isDirE p.2 = true ∧ entryOf old p.1 = some p.2 ∧
    (entryOf new p.1 = none → newHasNode new p.1 = false) ∧ ∀ n, entryOf new p.1 = some n → isDirE n = false

theorem addCreate_inv2 {old new : Option Index} {a : Actions} (p : Key × Entry) (h : ActInv2 old new a)
    (hp : entryOf new p.1 = some p.2)
    (hd : isDirE p.2 = false → ∀ o, entryOf old p.1 = some o → (o.hashInfo ≠ p.2.hashInfo ∨ isDirE o ≠ isDirE p.2)) :
    ActInv2 old new (addCreate a p) := by
  refine ⟨fun q hq => ?_, fun q hq => ?_, ?_, ?_⟩
  · rcases (mem_addCreate_filesCreate a p q).mp hq with hq | ⟨rfl, hf⟩
    · exact h.fcreate q hq
    · exact ⟨hf, hp, hd hf⟩
  · rcases (mem_addCreate_dirsCreate a p q).mp hq with hq | ⟨rfl, hf⟩
    · exact h.dcreate q hq
    · exact ⟨hf, hp⟩
  · rw [addCreate_filesDelete]; exact h.fdelete
  · rw [addCreate_dirsDelete]; exact h.ddelete

theorem addDelete_inv2 {old new : Option Index} {a : Actions} (p : Key × Entry) (h : ActInv2 old new a)
    (hp : entryOf old p.1 = some p.2)
    (hf : isDirE p.2 = false → ∀ n, entryOf new p.1 = some n → (p.2.hashInfo ≠ n.hashInfo ∨ isDirE p.2 ≠ isDirE n))
    (hdd : isDirE p.2 = true → (entryOf new p.1 = none → newHasNode new p.1 = false) ∧ ∀ n, entryOf new p.1 = some n → isDirE n = false) :
    ActInv2 old new (addDelete a p) := by
  refine ⟨?_, ?_, fun q hq => ?_, fun q hq => ?_⟩
  · rw [addDelete_filesCreate]; exact h.fcreate
  · rw [addDelete_dirsCreate]; exact h.dcreate
  · rcases (mem_addDelete_filesDelete a p q).mp hq with hq | ⟨rfl, hd⟩
    · exact h.fdelete q hq
    · exact ⟨hd, hp, hf hd⟩
  · rcases (mem_addDelete_dirsDelete a p q).mp hq with hq | ⟨rfl, hd⟩
    · exact h.ddelete q hq
    · exact ⟨hd, hp, hdd hd⟩

theorem compare_inv2 (old new : Option Index)
    (hom : ∀ k e, entryOf old k = some e → e.mt.isSome = true) (hnm : ∀ k e, entryOf new k = some e → e.mt.isSome = true) :
    ActInv2 old new (compare true old new) := by
  -- with metadata on both sides, two entries at one key are never reported as added or deleted
  have hpres : ∀ {k o n}, entryOf old k = some o → entryOf new k = some n →
      diffEntry { cmp := .dirExec } (some o) (some n) ≠ .add ∧ diffEntry { cmp := .dirExec } (some o) (some n) ≠ .delete :=
    fun ho hn => diffEntry_ne_add_delete _ rfl rfl _ _ (hom _ _ ho) (hnm _ _ hn)
  have h0 : ActInv2 old new {} := ⟨fun _ h => (List.not_mem_nil h).elim, fun _ h => (List.not_mem_nil h).elim,
    fun _ h => (List.not_mem_nil h).elim, fun _ h => (List.not_mem_nil h).elim⟩
  refine compare_ind true old new h0 (fun a k n hn hr ha => ?_)
    (fun a k o ho hr ha => ?_) (fun a k n _ _ ha => ⟨ha.fcreate, ha.dcreate, ha.fdelete, ha.ddelete⟩)
  · refine addCreate_inv2 (k, n) ha hn fun _ o ho => ?_
    rcases hr with ht | ⟨_, o', ho', hc⟩
    · exact absurd (ho ▸ ht) (hpres ho hn).1
    · cases ho.symm.trans ho'; exact hc.1
  · refine addDelete_inv2 (k, o) ha ho (fun _ n hn => ?_) fun hd => ⟨fun hnone => ?_, fun n hn => ?_⟩
    · rcases hr with ⟨ht, _⟩ | ⟨_, n', hn', hc⟩
      · exact absurd (hn ▸ ht) (hpres ho hn).2
      · cases hn.symm.trans hn'; exact hc.1
    · rcases hr with ⟨_, _, hk⟩ | ⟨_, n, hn, _⟩
      · simpa [hd] using hk
      · rw [hnone] at hn; cases hn
    · rcases hr with ⟨ht, _⟩ | ⟨_, n', hn', hc⟩
      · exact absurd (hn ▸ ht) (hpres ho hn).2
      · cases hn.symm.trans hn'; simpa [hd] using hc.2

/-- an old entry that the target replaces by something of another kind or content is scheduled for deletion -/
theorem compare_schedules_replace (delete : Bool) (old new : Option Index) (hwo : WFOpt old) (hwn : WFOpt new)
    (k : Key) (o n : Entry) (ho : entryOf old k = some o) (hn : entryOf new k = some n)
    (hmod : diffEntry { cmp := .dirExec } (some o) (some n) = .modify)
    (hdiff : o.hashInfo ≠ n.hashInfo ∨ isDirE o ≠ isDirE n) (hboth : (isDirE o && isDirE n) = false) :
    if isDirE o then (k, o) ∈ (compare delete old new).dirsDelete else (k, o) ∈ (compare delete old new).filesDelete := by
  obtain ⟨b, hle⟩ := compare_complete delete hwo hwn k (by rw [ho, hn, hmod]; simp)
  rw [ho, hn, hmod, Option.map_some, Option.map_some, stepChange_replace (k, o) (k, n) ⟨hdiff, hboth⟩] at hle
  have hle := (addCreate_mono _ _).trans hle
  split
  · next hd => exact hle.dirsDelete _ ((mem_addDelete_dirsDelete ..).mpr (.inr ⟨rfl, hd⟩))
  · next hd => exact hle.filesDelete _ ((mem_addDelete_filesDelete ..).mpr (.inr ⟨rfl, by simpa using hd⟩))

/-! ### what `compare` schedules for the executable bit -/

/-- whatever is created and is executable is also scheduled for `chmod` -/
def ExecInv (a : Actions) : Prop := ∀ p ∈ a.filesCreate, isExecE p.2 = true → p ∈ a.filesChmod

theorem compare_execInv (delete : Bool) (old new : Option Index) : ExecInv (compare delete old new) := by
  refine compare_ind delete old new (fun _ hp => (List.not_mem_nil hp).elim) (fun a k n _ _ ha q hq hx => ?_)
    (fun a k o _ _ ha => ?_) (fun a k n _ _ ha q hq hx => List.mem_append_left _ (ha q hq hx))
  · rw [mem_addCreate_filesChmod]
    exact ((mem_addCreate_filesCreate ..).mp hq).imp (ha q · hx) fun ⟨e, hf⟩ => ⟨e, hf, e ▸ hx⟩
  · unfold ExecInv; rw [addDelete_filesCreate, addDelete_filesChmod]; exact ha

/-- a file whose content stays and whose executable bit changes is scheduled for `chmod` -/
theorem compare_schedules_chmod (delete : Bool) (old new : Option Index) (hwo : WFOpt old) (hwn : WFOpt new)
    (k : Key) (o n : Entry) (ho : entryOf old k = some o) (hn : entryOf new k = some n)
    (hmod : diffEntry { cmp := .dirExec } (some o) (some n) = .modify)
    (hsame : o.hashInfo = n.hashInfo) (hkind : isDirE o = isDirE n) (hfile : isDirE n = false)
    (hex : isExecE o ≠ isExecE n) :
    (k, n) ∈ (compare delete old new).filesChmod := by
  obtain ⟨b, hle⟩ := compare_complete delete hwo hwn k (by rw [ho, hn, hmod]; simp)
  refine hle.filesChmod _ ?_
  rw [ho, hn, hmod]
  simp only [stepChange, Option.map_some]
  rw [if_neg (not_or.mpr ⟨not_not_intro hsame, not_not_intro hkind⟩), if_pos ⟨hex, by simp [hfile]⟩]
  simp

/-! ### the workspace index and the target index -/

theorem entryOf_lookup (idx : Index) (k : Key) : entryOf (some idx) k = (idx.lookup k).map fixMeta :=
  IndexDiff.entryOf_lookup idx k

theorem fixMeta_of_some (e : Entry) (h : e.mt.isSome = true) : fixMeta e = e := by
  obtain ⟨m, hm⟩ := Option.isSome_iff_exists.mp h
  simp [fixMeta, hm]

theorem entryOf_ws (ws : Ws) (k : Key) : entryOf (some (indexOfWs ws)) k = (ws.lookup k).map nodeEntry := by
  rw [entryOf_lookup, indexOfWs, AList.lookup_map (fun _ => nodeEntry) ws k]
  cases ws.lookup k with
  | none => rfl
  | some n => cases n <;> rfl

theorem entryOf_ws_eq_some {ws : Ws} {k : Key} {e : Entry} (h : entryOf (some (indexOfWs ws)) k = some e) :
    ∃ n, ws.lookup k = some n ∧ e = nodeEntry n := by
  rw [entryOf_ws] at h
  obtain ⟨n, hn, rfl⟩ := Option.map_eq_some_iff.mp h
  exact ⟨n, hn, rfl⟩

/-- target indexes considered: well-formed, every entry carries metadata, file entries carry the identifier of a cached
    object (and a hash that counts as present, which is what `createFile` tests), no entry at the root key - an index
    with a single entry at `()`, as for a single-file output, is not covered -/
structure TargetOK (cache : List Str) (T : Index) : Prop where
  wf : WFIdx T
  hasMeta : ∀ k e, T.lookup k = some e → e.mt.isSome = true
  cached : ∀ k e, T.lookup k = some e → isDirE e = false →
    ∃ h oid, e.hashInfo = some h ∧ h.value = some oid ∧ h.truthy = true ∧ cache.contains oid = true
  noRoot : T.lookup [] = none

theorem entryOf_target (cache : List Str) (T : Index) (ht : TargetOK cache T) (k : Key) :
    entryOf (some T) k = T.lookup k := by
  rw [entryOf_lookup]
  cases hl : T.lookup k with
  | none => rfl
  | some e => simp [fixMeta_of_some e (ht.hasMeta k e hl)]

/-- workspaces considered: a tree (every proper, non-empty prefix of a node is a directory), keys unique, no root
    node, no file with an empty object identifier.  `noRoot`: `tree` speaks of non-empty prefixes only, a node at `[]`
    would sit above everything without being a directory.  `oidNE`: makes the recorded hash of every file count as present,
    which is how `sched_file_delete` / `sched_file_create` get "different hashes, hence modified" (`diffEntry_hash`). -/
structure WsOK (ws : Ws) : Prop where
  wf : AList.WF ws
  tree : ∀ k n, ws.lookup k = some n → ∀ q, q ≠ [] → q <+: k → q ≠ k → ws.lookup q = some .dir
  noRoot : ws.lookup [] = none
  oidNE : ∀ k oid ex, ws.lookup k = some (.file oid ex) → oid ≠ []

theorem isDirE_nodeEntry (n : Node) : isDirE (nodeEntry n) = (match n with | .dir => true | .file .. => false) := by
  cases n <;> rfl

theorem wfIdx_indexOfWs (ws : Ws) (hw : WsOK ws) : WFIdx (indexOfWs ws) := by
  intro p suffix e e' hs hl hp
  rw [indexOfWs, AList.lookup_map (fun _ => nodeEntry)] at hl hp
  obtain ⟨n, hwk, -⟩ := Option.map_eq_some_iff.mp hl
  obtain ⟨n', hwp, rfl⟩ := Option.map_eq_some_iff.mp hp
  have hpne : p ≠ [] := by intro h; subst h; rw [hw.noRoot] at hwp; cases hwp
  have hne : p ≠ p ++ suffix := fun h => hs (List.append_right_eq_self.mp h.symm)
  rw [hw.tree (p ++ suffix) n hwk p hpne (List.prefix_append _ _) hne] at hwp
  cases hwp; rfl

theorem oldMeta (ws : Ws) (k : Key) (e : Entry) (h : entryOf (some (indexOfWs ws)) k = some e) : e.mt.isSome = true := by
  obtain ⟨n, _, rfl⟩ := entryOf_ws_eq_some h
  cases n <;> rfl

/-- the hash a file node with a non-empty object identifier is recorded with counts as present -/
theorem truthy_nodeEntry (oid : Str) (h : oid ≠ []) :
    ({ name := some kMd5, value := some oid } : HashInfo).truthy = true := by
  cases oid with
  | nil => exact absurd rfl h
  | cons a r => rfl

/-! ### target-side vocabulary -/

/-- the target has a file entry at `k` -/
def TFile (T : Index) (k : Key) : Prop := ∃ e, T.lookup k = some e ∧ isDirE e = false

/-- `q` has to be a directory in any workspace that holds the target -/
def TAbove (T : Index) (q : Key) : Prop := ∃ k e, T.lookup k = some e ∧ q <+: k ∧ (q = k → isDirE e = true)

/-- the object the target's file entry at `k` names; `none` without an entry, at a directory entry, and where the entry
    names no object -/
def fileOid (T : Index) (k : Key) : Option Str :=
  match T.lookup k with
  | some e => if isDirE e then none else e.hashInfo.bind (·.value)
  | none => none

theorem fileOid_none_of_not_file (T : Index) (k : Key) (h : ¬ TFile T k) : fileOid T k = none := by
  fun_cases fileOid T k
  · rfl
  · next e hl hd => exact absurd ⟨e, hl, by simpa using hd⟩ h
  · rfl

theorem entryIsDir_eq (e : Entry) : entryIsDir e = isDirE e := by
  unfold entryIsDir isDirE; cases e.mt <;> rfl

theorem isDirE_of_below {cache : List Str} {T : Index} (ht : TargetOK cache T) {q k : Key} {e e' : Entry}
    (hq : T.lookup q = some e') (hk : T.lookup k = some e) (hpre : q <+: k) (hne : q ≠ k) : isDirE e' = true := by
  obtain ⟨suffix, rfl⟩ := hpre
  have hs : suffix ≠ [] := by intro h; subst h; simp at hne
  have := ht.wf q suffix e e' hs hk hq
  rwa [fixMeta_of_some e' (ht.hasMeta q e' hq), entryIsDir_eq] at this

theorem tAbove_not_file {cache : List Str} {T : Index} (ht : TargetOK cache T) {q : Key} (h : TAbove T q) : ¬ TFile T q := by
  rintro ⟨e', he', hf'⟩
  obtain ⟨k, e, hk, hpre, hdir⟩ := h
  by_cases hqk : q = k
  · subst hqk
    cases he'.symm.trans hk
    rw [hdir rfl] at hf'; cases hf'
  · rw [isDirE_of_below ht he' hk hpre hqk] at hf'; cases hf'

theorem hasNode_mono (idx : Index) (d k : Key) (hdk : d <+: k) (h : hasNode idx k = true) : hasNode idx d = true := by
  unfold hasNode at *
  rw [List.any_eq_true] at *
  obtain ⟨e, he, hp⟩ := h
  exact ⟨e, he, List.isPrefixOf_iff_prefix.mpr (hdk.trans (List.isPrefixOf_iff_prefix.mp hp))⟩

theorem hasNode_of_entry (idx : Index) (q k : Key) (e : Entry) (hk : idx.lookup k = some e) (hq : q <+: k) :
    hasNode idx q = true := by
  obtain ⟨suffix, rfl⟩ := hq
  exact hasNode_of_lookup idx q suffix e hk

theorem hasNode_entry (idx : Index) (q : Key) (h : hasNode idx q = true) : ∃ k e, idx.lookup k = some e ∧ q <+: k := by
  unfold hasNode at h
  rw [List.any_eq_true] at h
  obtain ⟨e, he, hp⟩ := h
  obtain ⟨v, hv⟩ := Option.isSome_iff_exists.mp
    ((AList.lookup_isSome_iff_mem_keys idx e.1).mpr (List.mem_map.mpr ⟨e, he, rfl⟩))
  exact ⟨e.1, v, hv, List.isPrefixOf_iff_prefix.mp hp⟩

theorem not_tAbove {T : Index} {q : Key} (h : ¬ TAbove T q) : (T.lookup q = none ∧ hasNode T q = false) ∨ TFile T q := by
  cases hl : T.lookup q with
  | some e =>
    right
    cases hd : isDirE e with
    | false => exact ⟨e, hl, hd⟩
    | true => exact absurd ⟨q, e, hl, List.prefix_refl _, fun _ => hd⟩ h
  | none =>
    refine .inl ⟨rfl, ?_⟩
    cases hh : hasNode T q with
    | false => rfl
    | true =>
      obtain ⟨k, e, hk, hpre⟩ := hasNode_entry T q hh
      exact absurd ⟨k, e, hk, hpre, fun e' => by subst e'; rw [hl] at hk; cases hk⟩ h

theorem TAbove.of_prefix {T : Index} {q q' : Key} (h : TAbove T q) (hpre : q' <+: q) : TAbove T q' := by
  obtain ⟨k, e, hk, hqk, hdir⟩ := h
  refine ⟨k, e, hk, hpre.trans hqk, fun e' => hdir ?_⟩
  subst e'
  exact List.IsPrefix.eq_of_length_le hqk hpre.length_le

section evolves
variable {T : Index}

/-- how phases 3 and 4 may change the node at a key: not at all; a directory appears where nothing was and the
    target has a node at or below the key; or, at a key in `F`, the target's file is written over whatever is
    there that is not a directory -/
def Evolves (T : Index) (F : Key → Prop) (w w' : Ws) : Prop := ∀ q,
  w'.lookup q = w.lookup q ∨
  (w.lookup q = none ∧ w'.lookup q = some .dir ∧ TAbove T q) ∨
  (F q ∧ w.lookup q ≠ some .dir ∧ TFile T q ∧ ∃ oid, w'.lookup q = some (.file oid false) ∧ fileOid T q = some oid)

theorem Evolves.refl (F : Key → Prop) (w : Ws) : Evolves T F w w := fun _ => .inl rfl

theorem Evolves.mono {F G : Key → Prop} {w w' : Ws} (h : Evolves T F w w') (hFG : ∀ q, F q → G q) :
    Evolves T G w w' := fun q =>
  (h q).imp_right (Or.imp_right fun ⟨hf, r⟩ => ⟨hFG q hf, r⟩)

theorem Evolves.trans {F : Key → Prop} {w₁ w₂ w₃ : Ws} (h₁ : Evolves T F w₁ w₂) (h₂ : Evolves T F w₂ w₃) :
    Evolves T F w₁ w₃ := by
  intro q
  -- by the second step, then the first.  A directory appears only where nothing is, so the first step made nothing
  -- there; where a file is written the start had no directory either: the first step kept the node, or found nothing,
  -- or wrote a file itself
  rcases h₂ q with e | ⟨hn, hd, hab⟩ | ⟨hf, hnd, htf, oid, hl, ho⟩
  · rw [e]; exact h₁ q
  · rcases h₁ q with e | ⟨_, hd', _⟩ | ⟨_, _, _, oid, hl, _⟩
    · exact .inr (.inl ⟨e ▸ hn, hd, hab⟩)
    · rw [hd'] at hn; cases hn
    · rw [hl] at hn; cases hn
  · refine .inr (.inr ⟨hf, ?_, htf, oid, hl, ho⟩)
    rcases h₁ q with e | ⟨hn, _⟩ | ⟨_, hnd', _⟩
    · exact e ▸ hnd
    · rw [hn]; simp
    · exact hnd'

/-- a node stays if its key is outside `F` (`h.keeps hq (.inl hF)`) or if it is a directory (`h.keeps hq (.inr rfl)`) -/
theorem Evolves.keeps {F : Key → Prop} {w w' : Ws} (h : Evolves T F w w') {q : Key} {n : Node}
    (hq : w.lookup q = some n) (hF : ¬ F q ∨ n = .dir) : w'.lookup q = some n := by
  rcases h q with e | ⟨hn, _⟩ | ⟨hf, hnd, _⟩
  · rw [e, hq]
  · rw [hq] at hn; cases hn
  · rcases hF with hF | rfl
    · exact (hF hf).elim
    · exact (hnd hq).elim

theorem Evolves.oidAt_eq {F : Key → Prop} {w w' : Ws} (h : Evolves T F w w') {k : Key} (hF : ¬ F k) :
    oidAt w' k = oidAt w k := by
  rcases h k with e | ⟨hn, hd, _⟩ | ⟨hf, _⟩
  · exact oidAt_congr e
  · simp [oidAt, hn, hd]
  · exact (hF hf).elim

theorem Evolves.oidAt_done {F : Key → Prop} {w w' : Ws} (h : Evolves T F w w') {k : Key}
    (hk : oidAt w k = fileOid T k) : oidAt w' k = fileOid T k := by
  rcases h k with e | ⟨hn, hd, _⟩ | ⟨_, _, _, oid, hl, ho⟩
  · rw [oidAt_congr e, hk]
  · rw [← hk]; simp [oidAt, hn, hd]
  · rw [ho]; simp [oidAt, hl]

end evolves

/-! ### what is scheduled, in terms of the workspace and the target -/

/- From here to `end classify`, `hw : WsOK ws` and `ht : TargetOK cache T` come first among a theorem's arguments, unless an
   `omit` line in front of it takes one of them away.  A lemma with `variable {cache ws T} in` in front takes `cache ws T`
   implicitly: `sched_file_delete hw ht k ..`.  The others take them explicitly, before `hw ht`
   (`sched_dir_delete cache ws T hw ht k ..`; `cache` only where `ht` is taken): `acts_inv2`, `sched_dir_delete`, `fd_ws`,
   `fc_target`, `dc_target`, `ws1_lookup`, `ws2_sub`, `dd_gone`, `unscheduled_kept_ws2`, `mid_ws2`, the four `mid_*` lemmas
   of the creation phases, `apply_compare_converges`, `apply_compare_exec`. -/
section classify
variable (cache : List Str) (ws : Ws) (T : Index) (hw : WsOK ws) (ht : TargetOK cache T)

/-- the actions `compare` schedules for this workspace against this target (deletion enabled) -/
def acts : Actions := compare true (some (indexOfWs ws)) (some T)

include hw ht

omit hw in
theorem acts_inv2 : ActInv2 (some (indexOfWs ws)) (some T) (acts ws T) :=
  compare_inv2 _ _ (fun k e h => oldMeta ws k e h)
    (fun k e h => by rw [entryOf_target cache T ht] at h; exact ht.hasMeta k e h)

variable {cache ws T} in
/-- a workspace file that the target does not hold with the same hash is scheduled for deletion -/
theorem sched_file_delete (k : Key) (oid : Str) (ex : Bool) (hk : ws.lookup k = some (.file oid ex))
    (hno : ¬ ∃ e, T.lookup k = some e ∧ isDirE e = false ∧ e.hashInfo = (nodeEntry (.file oid ex)).hashInfo) :
    (k, nodeEntry (.file oid ex)) ∈ (acts ws T).filesDelete := by
  have hoe : entryOf (some (indexOfWs ws)) k = some (nodeEntry (.file oid ex)) := by rw [entryOf_ws, hk]; rfl
  cases hT : T.lookup k with
  | none =>
    exact compare_schedules_delete (some (indexOfWs ws)) (some T) (wfIdx_indexOfWs ws hw) ht.wf k _ hoe
      (by rw [entryOf_target cache T ht, hT]) rfl
  | some e =>
    have hrep := compare_schedules_replace true (some (indexOfWs ws)) (some T) (wfIdx_indexOfWs ws hw) ht.wf k _ e hoe
      (by rw [entryOf_target cache T ht, hT])
    cases hd : isDirE e with
    | false =>
      have hneq : (nodeEntry (.file oid ex)).hashInfo ≠ e.hashInfo := fun heq => hno ⟨e, hT, hd, heq.symm⟩
      exact hrep (diffEntry_hash _ e rfl (ht.hasMeta k e hT) (truthy_nodeEntry oid (hw.oidNE k oid ex hk)) hneq) (.inl hneq) rfl
    | true =>
      have hkind : isDirE (nodeEntry (.file oid ex)) ≠ isDirE e := by rw [hd]; nofun
      exact hrep (diffEntry_kind _ e rfl (ht.hasMeta k e hT) hkind) (.inr hkind) rfl

/-- a workspace directory where the target has nothing at all, or a file, is scheduled for deletion -/
theorem sched_dir_delete (k : Key) (hk : ws.lookup k = some .dir)
    (hT : (T.lookup k = none ∧ hasNode T k = false) ∨ TFile T k) :
    (k, nodeEntry .dir) ∈ (acts ws T).dirsDelete := by
  have hoe : entryOf (some (indexOfWs ws)) k = some (nodeEntry .dir) := by rw [entryOf_ws, hk]; rfl
  rcases hT with ⟨hnone, hnn⟩ | ⟨e, he, hf⟩
  · exact compare_schedules_delete (some (indexOfWs ws)) (some T) (wfIdx_indexOfWs ws hw) ht.wf k _ hoe
      (by rw [entryOf_target cache T ht, hnone]) (by simp [newHasNode, hnn])
  · have hkind : isDirE (nodeEntry .dir) ≠ isDirE e := by rw [hf]; nofun
    exact compare_schedules_replace true (some (indexOfWs ws)) (some T) (wfIdx_indexOfWs ws hw) ht.wf k _ e hoe
      (by rw [entryOf_target cache T ht, he]) (diffEntry_kind _ e rfl (ht.hasMeta k e he) hkind) (.inr hkind) (by simp [hf])

variable {cache ws T} in
/-- a target file that the workspace does not hold with the same hash is scheduled for creation -/
theorem sched_file_create (k : Key) (e : Entry) (he : T.lookup k = some e) (hf : isDirE e = false)
    (hno : ¬ ∃ oid ex, ws.lookup k = some (.file oid ex) ∧ (nodeEntry (.file oid ex)).hashInfo = e.hashInfo) :
    (k, e) ∈ (acts ws T).filesCreate := by
  refine compare_schedules_create true (some (indexOfWs ws)) (some T) (wfIdx_indexOfWs ws hw) ht.wf k e
    (by rw [entryOf_target cache T ht, he]) hf ?_
  rw [entryOf_ws]
  cases hk : ws.lookup k with
  | none => exact .inl (diffEntry_none_some _ rfl rfl e)
  | some n =>
    right
    cases n with
    | dir =>
      have hkind : isDirE (nodeEntry .dir) ≠ isDirE e := by rw [hf]; nofun
      exact ⟨diffEntry_kind _ e rfl (ht.hasMeta k e he) hkind, _, rfl, .inr hkind⟩
    | file oid ex =>
      have hneq : (nodeEntry (.file oid ex)).hashInfo ≠ e.hashInfo := fun heq => hno ⟨oid, ex, hk, heq⟩
      exact ⟨diffEntry_hash _ e rfl (ht.hasMeta k e he) (truthy_nodeEntry oid (hw.oidNE k oid ex hk)) hneq, _, rfl, .inl hneq⟩

variable {cache ws T} in
/-- a workspace file with the target's content but without the executable bit the target asks for is scheduled for `chmod` -/
theorem sched_chmod (k : Key) (e : Entry) (he : T.lookup k = some e) (hf : isDirE e = false) (hx : isExecE e = true)
    (oid : Str) (hwk : ws.lookup k = some (.file oid false))
    (hhash : (nodeEntry (.file oid false)).hashInfo = e.hashInfo) : (k, e) ∈ (acts ws T).filesChmod := by
  have hxx : isExecE (nodeEntry (.file oid false)) ≠ isExecE e := by rw [hx]; nofun
  exact compare_schedules_chmod true (some (indexOfWs ws)) (some T) (wfIdx_indexOfWs ws hw) ht.wf k _ e (by rw [entryOf_ws, hwk]; rfl)
    (by rw [entryOf_target cache T ht, he]) (diffEntry_exec _ e rfl (ht.hasMeta k e he) hxx) hhash (by rw [hf]; rfl) hf hxx

/-! ### what is in a list, in terms of the workspace and the target -/

omit hw in
/-- what is scheduled for deletion as a file is a file of the workspace, recorded as `indexOfWs` records it -/
theorem fd_ws (p : Key × Entry) (hp : p ∈ (acts ws T).filesDelete) :
    ∃ oid ex, ws.lookup p.1 = some (.file oid ex) ∧ p.2 = nodeEntry (.file oid ex) := by
  obtain ⟨hd, hoe, _⟩ := (acts_inv2 cache ws T ht).fdelete p hp
  obtain ⟨n, hl, hn⟩ := entryOf_ws_eq_some hoe
  cases n with
  | dir => rw [hn] at hd; cases hd
  | file oid ex => exact ⟨oid, ex, hl, hn⟩

omit hw in
variable {cache ws T} in
/-- what is scheduled for deletion as a directory is a directory of the workspace .. -/
theorem dd_ws (p : Key × Entry) (hp : p ∈ (acts ws T).dirsDelete) : ws.lookup p.1 = some .dir := by
  obtain ⟨hd, hoe, _⟩ := (acts_inv2 cache ws T ht).ddelete p hp
  obtain ⟨n, hl, hn⟩ := entryOf_ws_eq_some hoe
  cases n with
  | dir => exact hl
  | file oid ex => rw [hn] at hd; cases hd

omit hw in
variable {cache ws T} in
/-- .. where the target has no node -/
theorem dd_not_tAbove (p : Key × Entry) (hp : p ∈ (acts ws T).dirsDelete) : ¬ TAbove T p.1 := by
  obtain ⟨_, _, hnone, hfile⟩ := (acts_inv2 cache ws T ht).ddelete p hp
  rw [entryOf_target cache T ht] at hnone hfile
  intro h
  cases hl : T.lookup p.1 with
  | none =>
    obtain ⟨k, e, hk, hpre, _⟩ := h
    have hn := hnone hl
    rw [newHasNode, hasNode_of_entry T p.1 k e hk hpre] at hn
    cases hn
  | some n => exact tAbove_not_file ht h ⟨n, hl, hfile n hl⟩

omit hw in
/-- what is scheduled for creation as a file is a file entry of the target -/
theorem fc_target (p : Key × Entry) (hp : p ∈ (acts ws T).filesCreate) : T.lookup p.1 = some p.2 ∧ isDirE p.2 = false := by
  obtain ⟨hd, hne, _⟩ := (acts_inv2 cache ws T ht).fcreate p hp
  rw [entryOf_target cache T ht] at hne
  exact ⟨hne, hd⟩

omit hw in
/-- what is scheduled for creation as a directory is a directory entry of the target -/
theorem dc_target (p : Key × Entry) (hp : p ∈ (acts ws T).dirsCreate) : T.lookup p.1 = some p.2 ∧ isDirE p.2 = true := by
  obtain ⟨hd, hne⟩ := (acts_inv2 cache ws T ht).dcreate p hp
  rw [entryOf_target cache T ht] at hne
  exact ⟨hne, hd⟩

/-! ### after the two deletion phases -/

def fdKeys : List Key := (acts ws T).filesDelete.map fun (x : Key × Entry) => x.1
def ddKeys : List Key := (acts ws T).dirsDelete.map fun (x : Key × Entry) => x.1

/-- the workspace after phase 1: the scheduled files removed -/
def ws1 : Ws := (fdKeys ws T).foldl removePath ws
/-- ... and after phase 2: the scheduled directories removed, deepest first -/
def ws2 : Ws := (deepestFirst (ddKeys ws T)).foldl rmdir (ws1 ws T)

omit ht in
variable {ws T} in
theorem ws1_wf : AList.WF (ws1 ws T) :=
  List.foldlRecOn (fdKeys ws T) removePath hw.wf fun _ h _ _ => AList.wf_of_sublist List.filter_sublist h

omit hw ht in
theorem ws1_lookup (k : Key) :
    (ws1 ws T).lookup k = if ∃ p ∈ fdKeys ws T, p <+: k then none else ws.lookup k :=
  foldl_removePath_lookup _ ws k

variable {cache ws T} in
theorem ws1_lookup_tree (k : Key) : (ws1 ws T).lookup k = if k ∈ fdKeys ws T then none else ws.lookup k := by
  -- the scheduled keys are files of a tree, so nothing sits below them
  rw [ws1_lookup]
  by_cases hk : k ∈ fdKeys ws T
  · rw [if_pos ⟨k, hk, List.prefix_refl k⟩, if_pos hk]
  · rw [if_neg hk]
    split
    · next hex =>
      obtain ⟨q, hq, hqk⟩ := hex
      cases hl : ws.lookup k with
      | none => rfl
      | some n =>
        obtain ⟨p, hp, rfl⟩ := List.mem_map.mp hq
        obtain ⟨oid, ex, hfile, _⟩ := fd_ws cache ws T ht p hp
        have hpne : p.1 ≠ [] := fun h0 => by rw [h0, hw.noRoot] at hfile; cases hfile
        rw [hw.tree k n hl p.1 hpne hqk fun e => hk (e ▸ hq)] at hfile; cases hfile
    · rfl

omit ht in
theorem ws2_sub (k : Key) (n : Node) (h : (ws2 ws T).lookup k = some n) : ws.lookup k = some n := by
  have h1 := AList.lookup_of_mem (ws1_wf hw) (foldl_rmdir_sub (AList.mem_of_lookup h))
  rw [ws1_lookup] at h1
  split at h1
  · cases h1
  · exact h1

/-- every directory scheduled for deletion is no longer a directory after phase 2 -/
theorem dd_gone (p : Key × Entry) (hp : p ∈ (acts ws T).dirsDelete) : (ws2 ws T).lookup p.1 ≠ some .dir := by
  refine rmdir_all (ddKeys ws T) (ws1 ws T) (ws1_wf hw) (fun d hd e he hpp => ?_) p.1 (List.mem_map.mpr ⟨p, hp, rfl⟩)
  -- the target needs no directory at `d`, hence has nothing below it: what phase 1 left there is itself scheduled
  obtain ⟨pd, hpd, rfl⟩ := List.mem_map.mp hd
  have hna := dd_not_tAbove ht pd hpd
  simp only [properPrefix, Bool.and_eq_true, decide_eq_true_eq] at hpp
  have hpre : pd.1 <+: e.1 := List.isPrefixOf_iff_prefix.mp hpp.1
  have he1 := AList.lookup_of_mem (ws1_wf hw) he
  rw [ws1_lookup_tree hw ht] at he1
  split at he1
  · cases he1
  · next hnfd =>
    cases hn : e.2 with
    | dir =>
      rw [hn] at he1
      exact ⟨List.mem_map.mpr ⟨_, sched_dir_delete cache ws T hw ht e.1 he1
        (not_tAbove fun h => hna (h.of_prefix hpre)), rfl⟩, rfl⟩
    | file oid ex =>
      rw [hn] at he1
      refine (hnfd (List.mem_map.mpr ⟨_, sched_file_delete hw ht e.1 oid ex he1 ?_, rfl⟩)).elim
      rintro ⟨e', he', _⟩
      exact hna ⟨e.1, e', he', hpre, fun h => by rw [h] at hpp; exact absurd hpp.2 (Nat.lt_irrefl _)⟩

variable {cache ws T} in
theorem ws2_lookup (k : Key) :
    (ws2 ws T).lookup k = if k ∈ fdKeys ws T ∨ k ∈ ddKeys ws T then none else ws.lookup k := by
  by_cases hfd : k ∈ fdKeys ws T
  · rw [if_pos (.inl hfd)]
    exact foldl_rmdir_none_stays _ _ k (by rw [ws1_lookup_tree hw ht, if_pos hfd])
  by_cases hdd : k ∈ ddKeys ws T
  · -- it was a directory, is none any more, and `ws2` holds nothing that `ws` did not
    rw [if_pos (.inr hdd)]
    cases h : (ws2 ws T).lookup k with
    | none => rfl
    | some n =>
      obtain ⟨p, hp, rfl⟩ := List.mem_map.mp hdd
      have hsub := ws2_sub ws T hw p.1 n h
      rw [dd_ws ht p hp] at hsub
      cases hsub
      exact (dd_gone cache ws T hw ht p hp h).elim
  · rw [if_neg (not_or.mpr ⟨hfd, hdd⟩), ws2, foldl_rmdir_lookup_not_mem _ _ k (mt (mem_deepestFirst _ k).mp hdd),
      ws1_lookup_tree hw ht, if_neg hfd]

variable {cache ws T} in
theorem ws2_lookup_eq_some (k : Key) (n : Node) :
    (ws2 ws T).lookup k = some n ↔ ws.lookup k = some n ∧ k ∉ fdKeys ws T ∧ k ∉ ddKeys ws T := by
  rw [ws2_lookup hw ht]
  split
  · next h => exact ⟨fun h' => (by cases h'), fun ⟨_, h1, h2⟩ => (h.elim h1 h2).elim⟩
  · next h => exact ⟨fun h' => ⟨h', not_or.mp h⟩, fun h' => h'.1⟩

/-- what holds of the workspace `w` from the end of the deletion phases on: `noFileAbove` lets `makedirs` succeed,
    `noDirAtFile` lets `createFile` write, and the last two give the result once every scheduled file is written
    (`Mid.files`).  The first workspace `ws` enters through `acts ws T` only. -/
structure Mid (w : Ws) : Prop where
  noFileAbove : ∀ q, q ≠ [] → TAbove T q → notFile w q
  noDirAtFile : ∀ k, TFile T k → w.lookup k ≠ some .dir
  filesInTarget : ∀ k, oidAt w k ≠ none → TFile T k
  unscheduledRight : ∀ k, TFile T k → (∀ p ∈ (acts ws T).filesCreate, p.1 ≠ k) → oidAt w k = fileOid T k

omit hw in
variable {cache ws T} in
theorem file_of_oidAt {w : Ws} {k : Key} {e : Entry} (he : T.lookup k = some e) (hf : isDirE e = false)
    (h : oidAt w k = fileOid T k) : ∃ oid ex, w.lookup k = some (.file oid ex) := by
  obtain ⟨hi, oid, hh, hv, _, _⟩ := ht.cached k e he hf
  refine oidAt_some w k ?_
  rw [h]
  simp [fileOid, he, hf, hh, hv]

/-- a target file that is not scheduled for creation sits in the workspace with the target's content and survives
    both deletion phases untouched -/
theorem unscheduled_kept_ws2 (k : Key) (e : Entry) (he : T.lookup k = some e) (hf : isDirE e = false)
    (hns : ∀ p ∈ (acts ws T).filesCreate, p.1 ≠ k) :
    ∃ oid ex, ws.lookup k = some (.file oid ex) ∧ (nodeEntry (.file oid ex)).hashInfo = e.hashInfo ∧
      (ws2 ws T).lookup k = some (.file oid ex) := by
  obtain ⟨oid, ex, hwk, hhash⟩ : ∃ oid ex, ws.lookup k = some (.file oid ex) ∧
      (nodeEntry (.file oid ex)).hashInfo = e.hashInfo :=
    Classical.byContradiction fun hno => hns _ (sched_file_create hw ht k e he hf hno) rfl
  refine ⟨oid, ex, hwk, hhash, (ws2_lookup_eq_some hw ht k _).mpr ⟨hwk, fun hfd => ?_, fun hdd => ?_⟩⟩
  · -- scheduled for deletion it would differ from the target's entry in hash or kind
    obtain ⟨p, hp, rfl⟩ := List.mem_map.mp hfd
    obtain ⟨_, _, hdiff⟩ := (acts_inv2 cache ws T ht).fdelete p hp
    obtain ⟨o2, e2, hl2, hp2⟩ := fd_ws cache ws T ht p hp
    cases hwk.symm.trans hl2
    rw [hp2] at hdiff
    rcases hdiff e (by rw [entryOf_target cache T ht, he]) with h | h
    · exact h hhash
    · rw [hf] at h; exact h rfl
  · obtain ⟨p, hp, rfl⟩ := List.mem_map.mp hdd
    rw [dd_ws ht p hp] at hwk; cases hwk

theorem mid_ws2 : Mid ws T (ws2 ws T) := by
  -- a file that is still there is not scheduled for deletion, so the target holds a file with its hash at the key
  have hfile : ∀ k oid ex, (ws2 ws T).lookup k = some (.file oid ex) → TFile T k := fun k oid ex hl => by
    obtain ⟨hwk, hfd, _⟩ := (ws2_lookup_eq_some hw ht k _).mp hl
    refine Classical.byContradiction fun hnf => hfd (List.mem_map.mpr ⟨_, sched_file_delete hw ht k oid ex hwk ?_, rfl⟩)
    rintro ⟨e, he, hf, _⟩; exact hnf ⟨e, he, hf⟩
  refine ⟨fun q _ hab oid ex hl => ?_, fun k hk hl => ?_, fun k hk => ?_, fun k ⟨e, he, hf⟩ hns => ?_⟩
  · exact tAbove_not_file ht hab (hfile q oid ex hl)
  · obtain ⟨hwk, _, hdd⟩ := (ws2_lookup_eq_some hw ht k _).mp hl
    exact hdd (List.mem_map.mpr ⟨_, sched_dir_delete cache ws T hw ht k hwk (.inr hk), rfl⟩)
  · obtain ⟨oid, ex, hl⟩ := oidAt_some _ k hk
    exact hfile k oid ex hl
  · obtain ⟨oid, ex, _, hhash, hl⟩ := unscheduled_kept_ws2 cache ws T hw ht k e he hf hns
    -- the target's entry carries the hash of the node that is there (`hhash`), and that hash's value is `oid`
    simp only [oidAt, fileOid, hl, he, hf, Bool.false_eq_true, if_false, ← hhash]
    -- `nodeEntry` records `{ name := some kMd5, value := some oid }` for the file node
    show some oid = (nodeEntry (.file oid ex)).hashInfo.bind (·.value)
    rfl

/-! ### the creation phases preserve the invariant -/

omit hw in
variable {cache ws T} in
theorem Mid.evolves {F : Key → Prop} {w w' : Ws} (hm : Mid ws T w) (h : Evolves T F w w') : Mid ws T w' := by
  refine ⟨fun q hq hab oid ex hl => ?_, fun k hk hl => ?_, fun k hk => ?_, fun k hk hns => ?_⟩
  · rcases h q with e | ⟨_, hd, _⟩ | ⟨_, _, htf, _⟩
    · exact hm.noFileAbove q hq hab oid ex (e ▸ hl)
    · rw [hd] at hl; cases hl
    · exact tAbove_not_file ht hab htf
  · rcases h k with e | ⟨_, _, hab⟩ | ⟨_, _, _, oid, hf, _⟩
    · exact hm.noDirAtFile k hk (e ▸ hl)
    · exact tAbove_not_file ht hab hk
    · rw [hf] at hl; cases hl
  · rcases h k with e | ⟨_, hd, _⟩ | ⟨_, _, htf, _⟩
    · exact hm.filesInTarget k (oidAt_congr e ▸ hk)
    · simp [oidAt, hd] at hk
    · exact htf
  · rcases h k with e | ⟨_, _, hab⟩ | ⟨_, _, _, oid, hf, ho⟩
    · rw [oidAt_congr e]; exact hm.unscheduledRight k hk hns
    · exact (tAbove_not_file ht hab hk).elim
    · rw [ho]; simp [oidAt, hf]

omit hw ht in
variable {cache ws T} in
theorem Mid.files {w : Ws} (hm : Mid ws T w) (hdone : ∀ p ∈ (acts ws T).filesCreate, oidAt w p.1 = fileOid T p.1)
    (k : Key) : oidAt w k = fileOid T k := by
  by_cases hk : TFile T k
  · by_cases hin : ∃ p ∈ (acts ws T).filesCreate, p.1 = k
    · obtain ⟨p, hp, rfl⟩ := hin
      exact hdone p hp
    · exact hm.unscheduledRight k hk fun p hp e => hin ⟨p, hp, e⟩
  · rw [fileOid_none_of_not_file T k hk]
    exact Classical.byContradiction fun ho => hk (hm.filesInTarget k ho)

omit hw ht in
variable {cache ws T} in
theorem evolves_makedirs {w : Ws} (hm : Mid ws T w) (d : Key) (hab : ∀ q, q ≠ [] → q <+: d → TAbove T q) :
    ∃ w', makedirs w d = some w' ∧ Evolves T (fun _ => False) w w' ∧
      ∀ q, q ≠ [] → q <+: d → w'.lookup q = some .dir := by
  obtain ⟨w', h1, h2⟩ := makedirs_spec w d fun q hq hpre => hm.noFileAbove q hq (hab q hq hpre)
  refine ⟨w', h1, fun q => ?_, fun q hq hpre => ?_⟩
  · rw [h2 q]
    cases hl : w.lookup q with
    | some n => exact .inl rfl
    | none =>
      by_cases hc : q ≠ [] ∧ q <+: d
      · exact .inr (.inl ⟨rfl, if_pos hc, hab q hc.1 hc.2⟩)
      · exact .inl (if_neg hc)
  · rw [h2 q]
    cases hl : w.lookup q with
    | some n =>
      cases n with
      | dir => rfl
      | file oid ex => exact (hm.noFileAbove q hq (hab q hq hpre) oid ex hl).elim
    | none => exact if_pos ⟨hq, hpre⟩

omit hw in
theorem mid_makedirs (w : Ws) (hm : Mid ws T w) (d : Key) (hab : ∀ q, q ≠ [] → q <+: d → TAbove T q) :
    ∃ w', makedirs w d = some w' ∧ Mid ws T w' ∧ ∀ k, oidAt w' k = oidAt w k := by
  obtain ⟨w', h, he, _⟩ := evolves_makedirs hm d hab
  exact ⟨w', h, hm.evolves ht he, fun _ => he.oidAt_eq id⟩

omit hw in
variable {cache ws T} in
theorem evolves_foldlM_makedirs (ds : List Key) (w : Ws) (hm : Mid ws T w)
    (hab : ∀ d ∈ ds, ∀ q, q ≠ [] → q <+: d → TAbove T q) :
    ∃ w', ds.foldlM makedirs w = some w' ∧ Evolves T (fun _ => False) w w' ∧
      ∀ d ∈ ds, ∀ q, q ≠ [] → q <+: d → w'.lookup q = some .dir := by
  induction ds generalizing w with
  | nil => exact ⟨w, rfl, .refl _ w, by simp⟩
  | cons d r ih =>
    obtain ⟨w1, h1, he1, hd1⟩ := evolves_makedirs hm d (hab d (by simp))
    obtain ⟨w', h2, he2, hd2⟩ := ih w1 (hm.evolves ht he1) fun d' hd' => hab d' (List.mem_cons_of_mem _ hd')
    refine ⟨w', by simp [List.foldlM_cons, h1, h2], he1.trans he2, fun x hx q hq hpre => ?_⟩
    rcases List.mem_cons.mp hx with rfl | hx
    · exact he2.keeps (hd1 q hq hpre) (.inr rfl)
    · exact hd2 x hx q hq hpre

omit hw in
theorem mid_foldl_makedirs : ∀ (ds : List Key) (w : Ws), Mid ws T w →
    (∀ d ∈ ds, ∀ q, q ≠ [] → q <+: d → TAbove T q) →
    ∃ w', ds.foldlM makedirs w = some w' ∧ Mid ws T w' ∧ ∀ k, oidAt w' k = oidAt w k := by
  intro ds w hm hab
  obtain ⟨w', h, he, _⟩ := evolves_foldlM_makedirs ht ds w hm hab
  exact ⟨w', h, hm.evolves ht he, fun _ => he.oidAt_eq id⟩

omit hw in
variable {cache ws T} in
theorem evolves_createFile {w : Ws} (hm : Mid ws T w) (p : Key × Entry) (hp : p ∈ (acts ws T).filesCreate)
    (errs : List Key) :
    ∃ w', createFile cache (w, errs) p = (w', errs) ∧ Evolves T (· = p.1) w w' ∧
      oidAt w' p.1 = fileOid T p.1 := by
  obtain ⟨hT, hf⟩ := fc_target cache ws T ht p hp
  obtain ⟨h, oid, hh, hv, htr, hc⟩ := ht.cached p.1 p.2 hT hf
  have hfile : TFile T p.1 := ⟨p.2, hT, hf⟩
  have hfo : fileOid T p.1 = some oid := by simp [fileOid, hT, hf, hh, hv]
  have hab : ∀ q, q ≠ [] → q <+: p.1.dropLast → TAbove T q := fun q hq hpre =>
    ⟨p.1, p.2, hT, hpre.trans (List.dropLast_prefix _), fun e => absurd e.symm (not_prefix_dropLast p.1 q hpre hq)⟩
  obtain ⟨w', h1, h2⟩ := createFile_ok cache w errs p.1 p.2 h oid hh hv htr hc
    (fun q hq hpre => hm.noFileAbove q hq (hab q hq hpre)) (hm.noDirAtFile p.1 hfile)
  refine ⟨w', h1, fun q => ?_, ?_⟩
  · rw [h2 q]
    by_cases e : p.1 = q
    · exact .inr (.inr ⟨e.symm, e ▸ hm.noDirAtFile p.1 hfile, e ▸ hfile, oid, if_pos e, e ▸ hfo⟩)
    · rw [if_neg e]
      cases hl : w.lookup q with
      | some n => exact .inl rfl
      | none =>
        by_cases hc : q ≠ [] ∧ q <+: p.1.dropLast
        · exact .inr (.inl ⟨rfl, if_pos hc, hab q hc.1 hc.2⟩)
        · exact .inl (if_neg hc)
  · rw [hfo]; simp [oidAt, h2 p.1]

omit hw in
theorem mid_createFile (w : Ws) (hm : Mid ws T w) (p : Key × Entry) (hp : p ∈ (acts ws T).filesCreate) (errs : List Key) :
    ∃ w', createFile cache (w, errs) p = (w', errs) ∧ Mid ws T w' ∧ oidAt w' p.1 = fileOid T p.1 ∧
      ∀ k, k ≠ p.1 → oidAt w' k = oidAt w k := by
  obtain ⟨w', h, he, ho⟩ := evolves_createFile ht hm p hp errs
  exact ⟨w', h, hm.evolves ht he, ho, fun _ hk => he.oidAt_eq hk⟩

omit hw in
variable {cache ws T} in
theorem evolves_foldl_createFile (ps : List (Key × Entry)) (w : Ws) (hm : Mid ws T w)
    (hsub : ∀ p ∈ ps, p ∈ (acts ws T).filesCreate) (errs : List Key) :
    ∃ w', ps.foldl (createFile cache) (w, errs) = (w', errs) ∧ Evolves T (fun q => ∃ p ∈ ps, p.1 = q) w w' ∧
      ∀ p ∈ ps, oidAt w' p.1 = fileOid T p.1 := by
  induction ps generalizing w with
  | nil => exact ⟨w, rfl, .refl _ w, by simp⟩
  | cons p r ih =>
    obtain ⟨w1, h1, he1, ho1⟩ := evolves_createFile ht hm p (hsub p (by simp)) errs
    obtain ⟨w', h2, he2, ho2⟩ := ih w1 (hm.evolves ht he1) (fun q hq => hsub q (List.mem_cons_of_mem _ hq))
    refine ⟨w', by simp [List.foldl_cons, h1, h2], ?_, fun q hq => ?_⟩
    · exact (he1.mono fun q e => ⟨p, by simp, e.symm⟩).trans
        (he2.mono fun q ⟨x, hx, e⟩ => ⟨x, List.mem_cons_of_mem _ hx, e⟩)
    · rcases List.mem_cons.mp hq with rfl | hq
      · exact he2.oidAt_done ho1
      · exact ho2 q hq

theorem mid_foldl_createFile : ∀ (ps : List (Key × Entry)) (w : Ws), Mid ws T w →
    (∀ p ∈ ps, p ∈ (acts ws T).filesCreate) → (errs : List Key) →
    ∃ w', ps.foldl (createFile cache) (w, errs) = (w', errs) ∧ Mid ws T w' ∧
      (∀ p ∈ ps, oidAt w' p.1 = fileOid T p.1) ∧ ∀ k, (∀ p ∈ ps, p.1 ≠ k) → oidAt w' k = oidAt w k := by
  intro ps w hm hsub errs
  obtain ⟨w', h, he, ho⟩ := evolves_foldl_createFile ht ps w hm hsub errs
  exact ⟨w', h, hm.evolves ht he, ho, fun _ hk => he.oidAt_eq fun ⟨p, hp, e⟩ => hk p hp e⟩

variable {cache ws T} in
/-- the run of `apply` on what `compare` schedules: `w3` is the workspace after phase 3, `w4` after phase 4, the result
    is `w4` after the `chmod`s.  Phases 3 and 4 as `Evolves` facts (for what they keep), the scheduled directories are
    there after phase 3, the scheduled files hold their objects after phase 4, and `Mid` still holds (with the line
    before: `Mid.files`). -/
theorem apply_acts : ∃ w3 w4,
    apply cache (acts ws T) ws = .ok ((acts ws T).filesChmod.foldl chmodFile w4) [] ∧
    Evolves T (fun _ => False) (ws2 ws T) w3 ∧
    (∀ p ∈ (acts ws T).dirsCreate, w3.lookup p.1 = some .dir) ∧
    Evolves T (fun q => ∃ p ∈ (acts ws T).filesCreate, p.1 = q) w3 w4 ∧
    (∀ p ∈ (acts ws T).filesCreate, oidAt w4 p.1 = fileOid T p.1) ∧ Mid ws T w4 := by
  have hm2 := mid_ws2 cache ws T hw ht
  obtain ⟨w3, h3, he3, hd3⟩ := evolves_foldlM_makedirs ht ((acts ws T).dirsCreate.map (·.1)) (ws2 ws T) hm2
    (by
      intro d hd q hq hpre
      obtain ⟨p, hp, rfl⟩ := List.mem_map.mp hd
      obtain ⟨hT, hdir⟩ := dc_target cache ws T ht p hp
      exact ⟨p.1, p.2, hT, hpre, fun _ => hdir⟩)
  have hm3 := hm2.evolves ht he3
  obtain ⟨w4, h4, he4, hdone⟩ := evolves_foldl_createFile ht (acts ws T).filesCreate w3 hm3 (fun p hp => hp) []
  -- a scheduled directory is not at the root key, where `makedirs` makes nothing: the target has no entry there
  have hne : ∀ p ∈ (acts ws T).dirsCreate, p.1 ≠ [] := fun p hp h0 => by
    have hT := (dc_target cache ws T ht p hp).1
    rw [h0, ht.noRoot] at hT; cases hT
  refine ⟨w3, w4, ?_, he3, fun p hp => hd3 p.1 (List.mem_map.mpr ⟨p, hp, rfl⟩) p.1 (hne p hp) (List.prefix_refl _),
    he4, hdone, hm3.evolves ht he4⟩
  have e1 : (acts ws T).filesDelete.foldl (fun w p => removePath w p.1) ws = ws1 ws T := by
    unfold ws1 fdKeys
    rw [List.foldl_map]
  have e2 : (deepestFirst ((acts ws T).dirsDelete.map (·.1))).foldl rmdir (ws1 ws T) = ws2 ws T := rfl
  -- `apply` runs the five folds in a row: put `ws1`, `ws2`, `w3`, `w4` in for them one after the other
  unfold apply
  rw [e1]
  dsimp only
  rw [e2, h3]
  dsimp only
  rw [h4]

/-- **C09: index checkout converges.** For every workspace (a tree of files and directories, in any
    state) and every well-formed target index whose file objects are cached, applying what `compare`
    schedules (deletion enabled) succeeds without reporting an error, and afterwards the workspace
    holds *exactly the target's files with the target's contents*: a file is at a key if and only if
    the target has a file entry there, and its object is the one the entry names. -/
theorem apply_compare_converges :
    ∃ ws', apply cache (compare true (some (indexOfWs ws)) (some T)) ws = .ok ws' [] ∧
      ∀ k, oidAt ws' k = fileOid T k := by
  obtain ⟨_, w4, happ, _, _, _, hdone, hm4⟩ := apply_acts hw ht
  exact ⟨_, happ, fun k => (foldl_chmod_oidAt _ w4 k).trans (hm4.files hdone k)⟩

/-! ### the executable bit -/

/-- **C09 (executable entries).** Under the hypotheses of `apply_compare_converges`, after applying what `compare`
    schedules every file the target marks executable is a file with the executable bit set — whether it was
    created, already there without the bit, or already there with it. -/
theorem apply_compare_exec :
    ∃ ws', apply cache (compare true (some (indexOfWs ws)) (some T)) ws = .ok ws' [] ∧
      ∀ k e, T.lookup k = some e → isDirE e = false → isExecE e = true → ∃ oid, ws'.lookup k = some (.file oid true) := by
  obtain ⟨w3, w4, happ, he3, _, he4, hdone, _⟩ := apply_acts hw ht
  refine ⟨_, happ, fun k e he hf hx => ?_⟩
  -- a file of `w4` at `k` for which `chmod` is scheduled, or which has the bit, has it at the end
  have hend : ∀ oid ex, w4.lookup k = some (.file oid ex) → (ex = false → ∃ q ∈ (acts ws T).filesChmod, q.1 = k) →
      ∃ oid, ((acts ws T).filesChmod.foldl chmodFile w4).lookup k = some (.file oid true) := by
    intro oid ex hl hch
    refine ⟨oid, ?_⟩
    rw [foldl_chmod_file _ w4 k oid ex hl]
    cases ex with
    | true => rfl
    | false =>
      obtain ⟨q, hq, hqk⟩ := hch rfl
      rw [List.any_eq_true.mpr ⟨q, hq, by simpa using hqk⟩]
      rfl
  by_cases hin : ∃ p ∈ (acts ws T).filesCreate, p.1 = k
  · -- created: scheduled for chmod as well
    obtain ⟨p, hp, rfl⟩ := hin
    have hpe : p.2 = e := Option.some.inj ((fc_target cache ws T ht p hp).1.symm.trans he)
    obtain ⟨oid, ex, hl⟩ := file_of_oidAt ht he hf (hdone p hp)
    exact hend oid ex hl fun _ => ⟨p, compare_execInv true _ _ p hp (hpe ▸ hx), rfl⟩
  · -- not created: it was there with the right content; either it had the bit or chmod is scheduled
    have hns : ∀ p ∈ (acts ws T).filesCreate, p.1 ≠ k := fun p hp e' => hin ⟨p, hp, e'⟩
    obtain ⟨oid, ex, hwk, hhash, hk2⟩ := unscheduled_kept_ws2 cache ws T hw ht k e he hf hns
    refine hend oid ex (he4.keeps (he3.keeps hk2 (.inl id)) (.inl hin)) fun hex => ?_
    subst hex
    exact ⟨(k, e), sched_chmod hw ht k e he hf hx oid hwk hhash, rfl⟩

end classify

/-! ### decidable sufficient conditions, and a concrete instance -/

def wsOKb (ws : Ws) : Bool :=
  decide (AList.WF ws) &&
  ws.all (fun e => (prefixes e.1).all fun q => decide (q = e.1) || decide (ws.lookup q = some .dir)) &&
  decide (ws.lookup [] = none) &&
  ws.all (fun e => match e.2 with | .file oid _ => !oid.isEmpty | .dir => true)

theorem wsOK_of_check (ws : Ws) (h : wsOKb ws = true) : WsOK ws := by
  simp only [wsOKb, Bool.and_eq_true, decide_eq_true_eq, List.all_eq_true, Bool.or_eq_true] at h
  obtain ⟨⟨⟨h1, h2⟩, h3⟩, h4⟩ := h
  refine ⟨h1, fun k n hk q hq hpre hne => ?_, h3, fun k oid ex hk hnil => ?_⟩
  · exact (h2 (k, n) (AList.mem_of_lookup hk) q ((mem_prefixes k q).mpr ⟨hq, hpre⟩)).resolve_left hne
  · have := h4 _ (AList.mem_of_lookup hk)
    simp [hnil] at this

def targetOKb (cache : List Str) (T : Index) : Bool :=
  T.all (fun x => (prefixes x.1).all fun q => decide (q = x.1) ||
    (match T.lookup q with | some e' => entryIsDir (fixMeta e') | none => true)) &&
  T.all (fun x => x.2.mt.isSome) &&
  T.all (fun x => isDirE x.2 || (match x.2.hashInfo with
    | some h => (match h.value with | some oid => h.truthy && cache.contains oid | none => false)
    | none => false)) &&
  decide (T.lookup [] = none)

theorem targetOK_of_check (cache : List Str) (T : Index) (h : targetOKb cache T = true) : TargetOK cache T := by
  simp only [targetOKb, Bool.and_eq_true, decide_eq_true_eq, List.all_eq_true, Bool.or_eq_true] at h
  obtain ⟨⟨⟨h1, h2⟩, h3⟩, h4⟩ := h
  refine ⟨fun p suffix e e' hs hl hp => ?_, fun k e hl => h2 _ (AList.mem_of_lookup hl), fun k e hl hf => ?_, h4⟩
  · have hpne : p ≠ [] := by intro hnil; subst hnil; rw [h4] at hp; cases hp
    rcases h1 _ (AList.mem_of_lookup hl) p ((mem_prefixes _ p).mpr ⟨hpne, List.prefix_append _ _⟩) with h | h
    · exact (hs (List.append_right_eq_self.mp h.symm)).elim
    · rw [hp] at h; exact h
  · have := h3 _ (AList.mem_of_lookup hl)
    simp only [hf, Bool.false_eq_true, false_or] at this
    cases hh : e.hashInfo with
    | none => simp [hh] at this
    | some hi =>
      cases hv : hi.value with
      | none => simp [hh, hv] at this
      | some oid =>
        simp only [hh, hv, Bool.and_eq_true] at this
        exact ⟨hi, oid, rfl, hv, this.1, this.2⟩

/-- a workspace with a stale file, a file to be replaced by a directory and a nested directory to be removed,
    against a target with two files (one nested) — the hypotheses of the theorems hold of it (`exWs_ok`, `exT_ok`) -/
def exWs : Ws :=
  [([['a']], .file ['1'] false), ([['b']], .file ['2'] false), ([['d']], .dir), ([['d'], ['s']], .dir),
   ([['d'], ['s'], ['x']], .file ['3'] false)]
def exT : Index :=
  [([['a']], { mt := some {}, hashInfo := some { name := some kMd5, value := some ['9'] } }),
   ([['b'], ['c']], { mt := some {}, hashInfo := some { name := some kMd5, value := some ['2'] } })]

theorem exWs_ok : WsOK exWs := wsOK_of_check exWs (by decide)
theorem exT_ok : TargetOK [['9'], ['2']] exT := targetOK_of_check _ exT (by decide)

example : WsOK exWs := exWs_ok
example : TargetOK [['9'], ['2']] exT := exT_ok
example : ∃ ws', apply [['9'], ['2']] (compare true (some (indexOfWs exWs)) (some exT)) exWs = .ok ws' [] ∧
    ∀ k, oidAt ws' k = fileOid exT k :=
  apply_compare_converges _ exWs exT exWs_ok exT_ok

end DvcData.IndexCheckout

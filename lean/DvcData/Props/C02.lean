import DvcData.Model.Build
import DvcData.Proofs.Path
import DvcData.Proofs.AList
/-!
# C02 — stage → store → checkout round trip; C01 — content addressing
-/
namespace DvcData.Build
open DvcData Path AList

theorem lookup_addObj (s : Store) (oid : Oid) (o : Obj) (k : Oid) :
    (addObj s oid o).lookup k = (s.lookup k).or (if oid = k then some o else none) := by
  unfold addObj
  split
  · next hc =>
    obtain ⟨v, hv⟩ := contains_eq_true_iff.mp hc
    by_cases e : oid = k
    · rw [← e, hv]; rfl
    · rw [if_neg e, Option.or_none]
  · rw [lookup_append, lookup_cons, lookup_nil]

theorem lookup_foldl_addObj {α : Type} (f : α → Oid) (g : α → Obj) (l : List α) (s : Store) (k : Oid) :
    (l.foldl (fun st e => addObj st (f e) (g e)) s).lookup k =
      (s.lookup k).or ((l.find? fun e => f e = k).map g) := by
  induction l generalizing s with
  | nil => rw [List.foldl_nil, List.find?_nil, Option.map_none, Option.or_none]
  | cons a r ih =>
    rw [List.foldl_cons, ih, lookup_addObj, Option.or_assoc, List.find?_cons]
    by_cases e : f a = k
    · rw [if_pos e, decide_eq_true e]; rfl
    · rw [if_neg e, decide_eq_false e, Option.none_or]

/-- after staging, every file's bytes are stored under its hash — provided what was already under
    those names is right and equal hashes within the tree mean equal contents -/
theorem staged_files_present (H : Bytes → Oid) (T : List (Key × Bytes)) : ∀ (s : Store),
    (∀ e ∈ T, ∀ o, s.lookup (H e.2) = some o → o = .file e.2) →
    (∀ e1 ∈ T, ∀ e2 ∈ T, H e1.2 = H e2.2 → e1.2 = e2.2) →
    ∀ e ∈ T, (T.foldl (fun st e => addObj st (H e.2) (.file e.2)) s).lookup (H e.2) = some (.file e.2) := by
  intro s hpre hinj e he
  rw [lookup_foldl_addObj (fun e : Key × Bytes => H e.2) (fun e => .file e.2)]
  cases hs : s.lookup (H e.2) with
  | some o => rw [hpre e he o hs]; rfl
  | none =>
    -- the name was free: it gets the bytes of the first entry with this hash, which by `hinj` are `e`'s
    cases hf : T.find? (fun x => H x.2 = H e.2) with
    | none => exact absurd (decide_eq_true rfl) (List.find?_eq_none.mp hf e he)
    | some x =>
      have hx := List.find?_some hf
      rw [decide_eq_true_eq] at hx
      rw [Option.none_or, Option.map_some, hinj x (List.mem_of_find?_eq_some hf) e he hx]

theorem mapM_eq_some_self {α : Type} {f : α → Option α} : ∀ {l : List α}, (∀ x ∈ l, f x = some x) → l.mapM f = some l
  | [], _ => rfl
  | a :: r, h => by
    rw [List.mapM_cons, h a (List.mem_cons_self ..), mapM_eq_some_self fun x hx => h x (List.mem_cons_of_mem _ hx)]
    rfl

/-- **C02 (round trip).** Staging a tree into a store and materialising the staged listing from the
    store into a fresh location reproduces exactly the original relative paths with byte-identical
    contents; the reported file count and size match the data. -/
theorem roundtrip (H : Bytes → Oid) (D : List (Key × Oid) → Oid) (T : List (Key × Bytes)) (s : Store)
    (hpre : ∀ e ∈ T, ∀ o, s.lookup (H e.2) = some o → o = .file e.2)
    (hinj : ∀ e1 ∈ T, ∀ e2 ∈ T, H e1.2 = H e2.2 → e1.2 = e2.2) :
    materialise (stage H D T s).store (stage H D T s).entries = some T ∧
    (stage H D T s).nfiles = T.length ∧
    (stage H D T s).size = (T.map (·.2.length)).foldl (· + ·) 0 := by
  refine ⟨?_, rfl, rfl⟩
  simp only [stage, materialise, List.mapM_map]
  refine mapM_eq_some_self fun e he => ?_
  simp only [Function.comp, lookup_addObj, staged_files_present H T s hpre hinj e he, Option.some_or]

/-- the relative key computed by string slicing is the key the path was built from -/
theorem relKey_slice (path : List Char) (k : Key) (hk : KeyOK k) :
    relKeyOf path (path ++ sep :: joinC k) = k := by
  unfold relKeyOf
  have hne : ¬ (path ++ sep :: joinC k = path) := by
    intro h
    have := congrArg List.length h
    simp at this
  simp only [hne, if_false]
  have : (path ++ sep :: joinC k).drop (path.length + 1) = joinC k := by
    rw [List.append_cons]
    exact List.drop_left' (by simp)
  rw [this, splitC_joinC k hk]

/-! ## C01 — content addressing is an invariant of every operation -/

theorem addObj_addressed (H : Bytes → Oid) (D : List (Key × Oid) → Oid) (s : Store) (oid : Oid) (o : Obj)
    (hs : Addressed H D s) (ho : oid = nameOf H D o) : Addressed H D (addObj s oid o) := by
  unfold addObj
  split
  · exact hs
  · intro oid' o' hm
    rcases List.mem_append.mp hm with h | h
    · exact hs oid' o' h
    · simp at h; obtain ⟨rfl, rfl⟩ := h; exact ho

theorem step_preserves_addressed (H : Bytes → Oid) (D : List (Key × Oid) → Oid) (s : Store) (op : Op)
    (hs : Addressed H D s)
    (hsrc : ∀ src oids, op = .copyFrom src oids → Addressed H D src) : Addressed H D (step H D s op) := by
  cases op with
  | stageFile d => exact addObj_addressed H D s _ _ hs rfl
  | stageDir T =>
    exact addObj_addressed H D _ _ _
      (List.foldlRecOn T _ (motive := Addressed H D) hs fun st hst _ _ => addObj_addressed H D st _ _ hst rfl) rfl
  | copyFrom src oids =>
    refine List.foldlRecOn oids _ (motive := Addressed H D) hs fun st hst a _ => ?_
    split
    · next o ho => exact addObj_addressed H D st a o hst (hsrc src oids rfl a o (mem_of_lookup ho))
    · exact hst
  | migrateFrom src =>
    exact List.foldlRecOn src _ (motive := Addressed H D) hs fun st hst _ _ => addObj_addressed H D st _ _ hst rfl

/-- **C01.** After any finite sequence of stage / add / transfer / save / migrate operations every
    object of the store is filed under the digest of its own content (checked after every step) -/
theorem run_preserves_addressed (H : Bytes → Oid) (D : List (Key × Oid) → Oid) : ∀ (ops : List Op) (s : Store),
    Addressed H D s →
    (∀ op ∈ ops, ∀ src oids, op = .copyFrom src oids → Addressed H D src) →
    Addressed H D (ops.foldl (step H D) s) :=
  fun ops _ h hsrc => List.foldlRecOn ops _ (motive := Addressed H D) h fun st hst op hop =>
    step_preserves_addressed H D st op hst (hsrc op hop)

end DvcData.Build

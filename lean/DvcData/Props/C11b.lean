import DvcData.Model.TransferR
import DvcData.Proofs.Transfer
/-
  C11 / C04 when a new directory object's listing cannot be read: the transfer either gives up - no result, and what has
  arrived so far leaves the destination closed (`giveUp_closed`) - or, if it returns a result, that result is the result of the
  transfer in which every listing was readable (`doTransferR_some`), so every theorem about `doTransfer` (partition,
  transferred present, absent accounted, closure at every cut) applies to it: a result that is returned tells the truth.
-/
namespace DvcData.Transfer
open DvcData Status List

variable {Oid : Type} [DecidableEq Oid]

theorem loopR_eq (cx : Ctx Oid) (readable : Oid → Bool) : ∀ (dirs : List Oid) (s : St Oid),
    loopR cx readable dirs s = if dirs.all readable then some (dirs.foldl (stepDir cx) s) else none
  | [], s => rfl
  | d :: r, s => by
    cases hr : readable d <;> simp [loopR, hr, loopR_eq cx readable r]

theorem doTransferR_eq (cx : Ctx Oid) (readable : Oid → Bool) (s : St Oid) (dirs : List Oid) :
    doTransferR cx readable s dirs = if dirs.all readable then some (doTransfer cx s dirs) else none := by
  unfold doTransferR
  rw [loopR_eq]
  split <;> rfl

/-- **a result that is returned is the result of the transfer with every listing readable** -/
theorem doTransferR_some (cx : Ctx Oid) (readable : Oid → Bool) (s r : St Oid) (dirs : List Oid)
    (h : doTransferR cx readable s dirs = some r) : r = doTransfer cx s dirs ∧ ∀ d ∈ dirs, readable d = true := by
  rw [doTransferR_eq] at h
  split at h
  · next ha => exact ⟨(Option.some.inj h).symm, all_eq_true.mp ha⟩
  · cases h

/-- the transfer gives up exactly when a new directory's listing cannot be read -/
theorem doTransferR_none_iff (cx : Ctx Oid) (readable : Oid → Bool) (s : St Oid) (dirs : List Oid) :
    doTransferR cx readable s dirs = none ↔ ∃ d ∈ dirs, readable d = false := by
  rw [doTransferR_eq]
  simp

theorem destAtGiveUp_eq (cx : Ctx Oid) (readable : Oid → Bool) : ∀ (dirs : List Oid) (s : St Oid),
    destAtGiveUp cx readable dirs s = ((dirs.takeWhile readable).foldl (stepDir cx) s).dest
  | [], s => rfl
  | d :: r, s => by
    cases hr : readable d <;> simp [destAtGiveUp, hr, destAtGiveUp_eq cx readable r]

/-- **when the transfer gives up, what has arrived leaves the destination closed** -/
theorem giveUp_closed (cx : Ctx Oid) (readable : Oid → Bool) (s : St Oid) (dirs : List Oid)
    (h0 : Closed cx s.dest) (hp : ∀ x ∈ s.pending, cx.isDir x = false) (hacc : Acc cx s dirs) :
    Closed cx (destAtGiveUp cx readable dirs s) := by
  rw [destAtGiveUp_eq]
  exact (foldl_safe cx _ s hp fun d hd => hacc d ((takeWhile_sublist readable).subset hd)).closed h0

end DvcData.Transfer

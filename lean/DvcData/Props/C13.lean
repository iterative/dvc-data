import DvcData.Model.State
import DvcData.Model.IndexDiff
import DvcData.Proofs.AList
/-!
# C13 — cached and carried-over hashes are never stale

Everything rests on the invariant `Coherent` between the hash-state rows, the files and a history of the stamps each
path ever had. `hit_is_current_hash` is what the invariant buys; `save_coherent`, `mutate_coherent`, `delete_coherent`
and `hashFile_spec` say that each operation keeps it. There is no theorem over a sequence of operations: whoever
models one (C07's `add`) carries `Coherent` along with these lemmas.
-/
namespace DvcData.State
open DvcData AList

/-- history variable: every (path, stamp) a file ever had, with the bytes it had then -/
abbrev Used := List (Path × Stamp × Bytes)

/-- the algorithm a row vouches for (version-less `md5` rows are the legacy normalising hash) -/
def rowAlgo (r : Row) : Algo :=
  match r.version with
  | none => if r.algo = "md5" then "md5-dos2unix" else r.algo
  | some _ => r.algo

/-- **the invariant**: the filesystem is recorded in the history; a (path, stamp) pair never stood
    for two different contents (the runtime assumption: a mutation changes inode, mtime or size);
    every row was computed from the bytes the file had under the row's stamp -/
structure Coherent (H : Algo → Bytes → Digest) (db : Db) (fs : Fs) (used : Used) : Prop where
  recorded : ∀ p n, fs.lookup p = some n → (p, n.stamp, n.bytes) ∈ used
  functional : ∀ p s b b', (p, s, b) ∈ used → (p, s, b') ∈ used → b = b'
  rows : ∀ p r, db.lookup p = some r → ∃ b, (p, r.checksum, b) ∈ used ∧ r.value = H (rowAlgo r) b

theorem rowHit_some {r : Row} {n : Node} {a : Algo} {v : Digest} (h : rowHit r n = some (a, v)) :
    r.checksum = n.stamp ∧ a = rowAlgo r ∧ v = r.value := by
  revert h
  fun_cases rowHit r n <;> intro h
  -- the branches of `rowHit`: other stamp; newer format; a versioned row hits; a version-less row hits
  · cases h
  · cases h
  · next hc ver hv _ => cases h; exact ⟨Decidable.of_not_not hc, by rw [rowAlgo, hv], rfl⟩
  · next hc hv => cases h; exact ⟨Decidable.of_not_not hc, by rw [rowAlgo, hv], rfl⟩

/-- **a hit is the hash of the current bytes** -/
theorem hit_is_current_hash (H : Algo → Bytes → Digest) (db : Db) (fs : Fs) (used : Used)
    (hc : Coherent H db fs used) (loc : Bool) (p : Path) (a : Algo) (v : Digest)
    (h : get db fs loc p = some (a, v)) : ∃ n, fs.lookup p = some n ∧ v = H a n.bytes := by
  unfold get at h
  split at h
  · cases h
  · split at h
    · next r n hr hn =>
      obtain ⟨h1, rfl, rfl⟩ := rowHit_some h
      obtain ⟨b, hb, hv⟩ := hc.rows p r hr
      rw [h1] at hb
      exact ⟨n, hn, by rw [hv, hc.functional p n.stamp b n.bytes hb (hc.recorded p n hn)]⟩
    · cases h

/-- entries written by a newer format version never hit -/
theorem newer_version_ignored (r : Row) (n : Node) (v : Nat) (hv : r.version = some v) (h : v > HASH_VERSION) :
    rowHit r n = none := by
  fun_cases rowHit r n
  -- other stamp; newer format; then the two hitting branches, which `h` and `hv` exclude
  · rfl
  · rfl
  · next ver hv' hle => rw [hv] at hv'; cases hv'; exact absurd h hle
  · next hv' => rw [hv] at hv'; cases hv'

/-- a non-local filesystem never gets an answer from the cache -/
theorem nonlocal_bypass (db : Db) (fs : Fs) (p : Path) : get db fs false p = none := by
  simp [get]

theorem save_coherent (H : Algo → Bytes → Digest) (db : Db) (fs : Fs) (used : Used)
    (hc : Coherent H db fs used) (p : Path) (algo : Algo) (n : Node) (hn : fs.lookup p = some n) :
    Coherent H (save db fs p algo (H algo n.bytes)) fs used := by
  refine ⟨hc.recorded, hc.functional, ?_⟩
  simp only [save, hn]
  exact forall_lookup_set hc.rows ⟨n.bytes, hc.recorded p n hn, rfl⟩

/-- for a file that exists `hash_file` does answer (`hashFile_correct` below reads this from the answer's side) -/
theorem hashFile_spec {H : Algo → Bytes → Digest} {db : Db} {fs : Fs} {used : Used}
    (hc : Coherent H db fs used) (loc : Bool) (p : Path) (name : Algo) (n : Node) (hn : fs.lookup p = some n) :
    ∃ db', hashFile H db fs loc p name = some (H name n.bytes, db') ∧ Coherent H db' fs used := by
  have miss : Coherent H (if loc then save db fs p name (H name n.bytes) else db) fs used := by
    split
    · exact save_coherent H db fs used hc p name n hn
    · exact hc
  unfold hashFile
  rw [hn]
  cases hg : get db fs loc p with
  | none => exact ⟨_, rfl, miss⟩
  | some av =>
    obtain ⟨a, v⟩ := av
    by_cases ha : a = name
    · obtain ⟨n', hn', hv⟩ := hit_is_current_hash H db fs used hc loc p a v hg
      rw [hn] at hn'; cases hn'
      exact ⟨db, by simp only [ha, if_true, hv], hc⟩
    · exact ⟨_, by simp only [ha, if_false], miss⟩

/-- **`hash_file` through the cache returns the hash of the current bytes for the requested
    algorithm** (an entry recorded for another algorithm is never served), and keeps the invariant -/
theorem hashFile_correct (H : Algo → Bytes → Digest) (db : Db) (fs : Fs) (used : Used)
    (hc : Coherent H db fs used) (loc : Bool) (p : Path) (name : Algo) (v : Digest) (db' : Db)
    (h : hashFile H db fs loc p name = some (v, db')) :
    (∃ n, fs.lookup p = some n ∧ v = H name n.bytes) ∧ Coherent H db' fs used := by
  cases hn : fs.lookup p with
  | none => simp only [hashFile, hn] at h; cases h
  | some n =>
    obtain ⟨db'', h', hc'⟩ := hashFile_spec hc loc p name n hn
    rw [h] at h'; cases h'
    exact ⟨⟨n, rfl, rfl⟩, hc'⟩

/-- a mutation under a stamp that never stood for other bytes keeps the invariant: the old rows
    simply stop hitting -/
theorem mutate_coherent (H : Algo → Bytes → Digest) (db : Db) (fs : Fs) (used : Used)
    (hc : Coherent H db fs used) (p : Path) (b : Bytes) (s : Stamp)
    (hfresh : ∀ b', (p, s, b') ∈ used → b' = b) :
    Coherent H db (mutate fs p b s) ((p, s, b) :: used) := by
  refine ⟨?_, ?_, ?_⟩
  · exact forall_lookup_set (fun q n hq => List.mem_cons_of_mem _ (hc.recorded q n hq)) (List.mem_cons_self ..)
  · intro q s' b1 b2 h1 h2
    rcases List.mem_cons.mp h1 with e1 | h1 <;> rcases List.mem_cons.mp h2 with e2 | h2
    · cases e1; cases e2; rfl
    · cases e1; exact (hfresh b2 h2).symm
    · cases e2; exact hfresh b1 h1
    · exact hc.functional q s' b1 b2 h1 h2
  · intro q r hr
    obtain ⟨b', hb', hv⟩ := hc.rows q r hr
    exact ⟨b', List.mem_cons_of_mem _ hb', hv⟩

theorem delete_coherent (H : Algo → Bytes → Digest) (db : Db) (fs : Fs) (used : Used)
    (hc : Coherent H db fs used) (p : Path) : Coherent H db (delete fs p) used :=
  ⟨forall_lookup_erase p hc.recorded, hc.functional, hc.rows⟩

/-! ### batch lookups -/

theorem batched_flatten (n : Nat) (hn : n ≠ 0) (l : List Path) : (batched n l).flatten = l := by
  fun_induction batched n l with
  | case1 l h =>
    rcases h with h | h
    · exact absurd h hn
    · rw [h]; rfl
  | case2 l _ ih => rw [List.flatten_cons, ih, List.take_append_drop]

/-- **batch and single lookups agree for any number of paths** (across the 999-parameter boundary) -/
theorem getMany_eq_map_get (db : Db) (fs : Fs) (loc : Bool) (ps : List Path) :
    getMany db fs loc ps = ps.map fun p => (p, get db fs loc p) := by
  rw [getMany, List.flatMap_def, ← List.map_flatten, batched_flatten 999 (by decide) ps]

/-! ### used by C07: what a batch of adds leaves alone, and what a verdict depends on -/

theorem lookup_save_ne {db : Db} {fs : Fs} {p : Path} {algo : Algo} {v : Digest} {q : Path} (h : p ≠ q) :
    (save db fs p algo v).lookup q = db.lookup q := by
  unfold save
  split
  · rfl
  · exact lookup_set_ne h

theorem hashFile_fst_congr (H : Algo → Bytes → Digest) (db db' : Db) (fs fs' : Fs) (loc : Bool) (p : Path) (name : Algo)
    (hf : fs'.lookup p = fs.lookup p) (hd : db'.lookup p = db.lookup p) :
    (hashFile H db' fs' loc p name).map (·.1) = (hashFile H db fs loc p name).map (·.1) := by
  have hg : get db' fs' loc p = get db fs loc p := by unfold get; rw [hf, hd]
  unfold hashFile
  rw [hf, hg]
  cases fs.lookup p with
  | none => rfl
  | some n =>
    cases get db fs loc p with
    | none => rfl
    | some av =>
      dsimp only
      by_cases ha : av.1 = name
      · rw [if_pos ha, if_pos ha]; rfl
      · rw [if_neg ha, if_neg ha]; rfl

end DvcData.State

namespace DvcData.IndexDiff
open DvcData MetaInfo

/-- `index/update.py`: carry the old hash over when the meta-only diff says "unchanged" -/
def updateEntry (old new : Entry) : Entry :=
  if diffEntry { metaOnly := true, withUnchanged := true } (some old) (some new) = .unchanged
  then { new with hashInfo := old.hashInfo } else new

theorem diffEntry_metaOnly (o : Opts) (h : o.metaOnly = true) (old new : Option Entry) :
    diffEntry o old new = diffMeta o.cmp (old.bind (·.mt)) (new.bind (·.mt)) := by
  simp only [diffEntry, decide3, h, if_true]

/-- **a hash is carried over only across equal full metadata** (inode, mtime and size included;
    only `remote` is not compared) -/
theorem update_copies_only_equal_meta (old new : Entry)
    (h : (updateEntry old new).hashInfo ≠ new.hashInfo) :
    match old.mt, new.mt with
    | some a, some b => ({ a with remote := none } : Meta) = { b with remote := none }
    | none, none => True
    | _, _ => False := by
  unfold updateEntry at h
  split at h
  · next hd =>
    rw [diffEntry_metaOnly _ rfl] at hd
    simp only [Option.bind_some] at hd
    generalize old.mt = om, new.mt = nm at hd ⊢
    cases om <;> cases nm <;> simp only [diffMeta] at hd
    · trivial
    · cases hd
    · cases hd
    · split at hd
      · next hm => exact of_decide_eq_true hm
      · cases hd
  · exact absurd rfl h

end DvcData.IndexDiff

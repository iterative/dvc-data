import DvcData.Model.Staging
import DvcData.Proofs.AList
/-!
  C02 / C01: what a transfer out of a staging area files in the store.

  `stage_refsOK`: the table of one `build()` call refers every oid to a path whose bytes hash to it.
  `refsOK_of_untouched`: that stays true for every later workspace that agrees with the staged one on the
  paths the table mentions - whatever happens to *other* paths, in particular to paths staged by other calls.
  `transferStaged_addressed`: transferring out of such a table keeps the store content-addressed, and
  `transferStaged_delivers`: every requested oid of the table is in the store afterwards.
  The `example` at the end is the counter-model: one table *shared* by two `build()` calls (what a memoised
  staging area amounts to) lets the second call re-point an oid at its own path, and an edit of that path
  then files foreign bytes under the oid although the first call's directory was never touched.
-/
namespace DvcData.Staging
open DvcData

theorem stageInto_refsOK (H : Bytes → Oid) (fs : Fs) (paths : List Path) (refs : Refs) (h : RefsOK H fs refs) :
    RefsOK H fs (stageInto H fs paths refs) := by
  fun_induction stageInto H fs paths refs with
  | case1 => exact h
  | case2 refs p r b hl ih => exact ih (AList.forall_lookup_set h ⟨b, hl, rfl⟩)
  | case3 refs p r hl ih => exact ih h

/-- the table of one `build()` call is sound for the workspace it was built from -/
theorem stage_refsOK (H : Bytes → Oid) (fs : Fs) (paths : List Path) : RefsOK H fs (stage H fs paths) :=
  stageInto_refsOK H fs paths [] (by intro o p h; simp at h)

/-- ... and for every later workspace that agrees with it on the paths the table mentions -/
theorem refsOK_of_untouched (H : Bytes → Oid) (fs fs' : Fs) (refs : Refs) (h : RefsOK H fs refs)
    (hsame : ∀ o p, refs.lookup o = some p → fs'.lookup p = fs.lookup p) : RefsOK H fs' refs := by
  intro o p hp
  obtain ⟨b, hb, hh⟩ := h o p hp
  exact ⟨b, by rw [hsame o p hp]; exact hb, hh⟩

/-- the transfer of one oid: it files at most one object, under a free name -/
def transferOne (fs : Fs) (refs : Refs) (s : Store) (o : Oid) : Store :=
  if s.contains o then s else
    match (refs.lookup o).bind fs.lookup with
    | some b => s ++ [(o, b)]
    | none => s

theorem transferStaged_eq_foldl (fs : Fs) (refs : Refs) (oids : List Oid) (s : Store) :
    transferStaged fs refs oids s = oids.foldl (transferOne fs refs) s := by
  fun_induction transferStaged fs refs oids s with
  | case1 => rfl
  | case2 o r s hc ih => rw [ih, List.foldl_cons, transferOne, if_pos hc]
  | case3 o r s hc p hp b hb ih => rw [ih, List.foldl_cons, transferOne, if_neg hc, hp, Option.bind_some, hb]
  | case4 o r s hc p hp hb ih => rw [ih, List.foldl_cons, transferOne, if_neg hc, hp, Option.bind_some, hb]
  | case5 o r s hc hp ih => rw [ih, List.foldl_cons, transferOne, if_neg hc, hp, Option.bind_none]

theorem transferOne_keeps {fs : Fs} {refs : Refs} (o : Oid) {s : Store} {k : Oid}
    (h : s.contains k = true) : (transferOne fs refs s o).contains k = true := by
  unfold transferOne
  split
  · exact h
  · split
    · rw [AList.contains_append, h]; rfl
    · exact h

theorem transferOne_binds {fs : Fs} {refs : Refs} {o : Oid} (s : Store) {p : Path} {b : Bytes}
    (hp : refs.lookup o = some p) (hb : fs.lookup p = some b) : (transferOne fs refs s o).contains o = true := by
  rw [transferOne, hp, Option.bind_some, hb]
  split
  · assumption
  · have : AList.contains [(o, b)] o = true := by rw [AList.contains, AList.lookup_cons, if_pos rfl]; rfl
    rw [AList.contains_append, this, Bool.or_true]

/-- transferring out of a sound table keeps the store content-addressed -/
theorem transferStaged_addressed (H : Bytes → Oid) (fs : Fs) (refs : Refs) (hr : RefsOK H fs refs) :
    ∀ (oids : List Oid) (s : Store), Addressed H s → Addressed H (transferStaged fs refs oids s) := by
  intro oids s h
  rw [transferStaged_eq_foldl]
  refine List.foldlRecOn oids _ (motive := Addressed H) h fun st hst o _ => ?_
  unfold transferOne
  split
  · exact hst
  · split
    · next b hb =>
      obtain ⟨p, hp, hpb⟩ := Option.bind_eq_some_iff.mp hb
      obtain ⟨b', hb', hh⟩ := hr o p hp
      rw [hpb] at hb'; cases hb'
      intro o' b' hm
      rcases List.mem_append.mp hm with hm | hm
      · exact hst o' b' hm
      · cases List.mem_singleton.mp hm
        exact hh.symm
    · exact hst

/-- every requested oid the table knows is in the store afterwards -/
theorem transferStaged_delivers (H : Bytes → Oid) (fs : Fs) (refs : Refs) (hr : RefsOK H fs refs) :
    ∀ (oids : List Oid) (s : Store) (o : Oid), o ∈ oids → (refs.lookup o).isSome = true →
      (transferStaged fs refs oids s).contains o = true := by
  intro oids s o ho hk
  rw [transferStaged_eq_foldl]
  -- bound by its own transfer, kept by those that follow
  obtain ⟨l1, l2, rfl⟩ := List.append_of_mem ho
  rw [List.foldl_append, List.foldl_cons]
  obtain ⟨p, hp⟩ := Option.isSome_iff_exists.mp hk
  obtain ⟨b, hb, _⟩ := hr o p hp
  exact List.foldlRecOn l2 _ (motive := fun (st : Store) => st.contains o = true)
    (transferOne_binds _ hp hb) fun _ hst x _ => transferOne_keeps x hst

/-- **C02/C01, staging.** A directory staged by one `build()` call and not touched since is transferred
    faithfully - the store stays content-addressed and every staged oid is delivered - whatever other calls
    staged in between and whatever happened to *their* paths. -/
theorem staged_transfer_faithful (H : Bytes → Oid) (fs fs' : Fs) (paths : List Path) (oids : List Oid) (s : Store)
    (hs : Addressed H s)
    (hsame : ∀ o p, (stage H fs paths).lookup o = some p → fs'.lookup p = fs.lookup p) :
    Addressed H (transferStaged fs' (stage H fs paths) oids s) ∧
    ∀ o ∈ oids, ((stage H fs paths).lookup o).isSome = true →
      (transferStaged fs' (stage H fs paths) oids s).contains o = true := by
  have hr := refsOK_of_untouched H fs fs' _ (stage_refsOK H fs paths) hsame
  exact ⟨transferStaged_addressed H fs' _ hr oids s hs, fun o ho hk => transferStaged_delivers H fs' _ hr oids s o ho hk⟩

/-! ### the hypotheses are met, and a shared table breaks the property -/

def exH : Bytes → Oid := fun b => String.ofList (b.map fun c => Char.ofNat c.toNat)
def exFs : Fs := [(['A', '/', 'f'], [115]), (['B', '/', 'f'], [115]), (['A', '/', 'g'], [116])]
/-- the user edits `B/f` after both directories were staged -/
def exFs' : Fs := [(['A', '/', 'f'], [115]), (['B', '/', 'f'], [120]), (['A', '/', 'g'], [116])]

/-- per-call tables: staging `A`, then (elsewhere) `B`, editing `B/f`, transferring `A` files `s` under `"s"` -/
example : transferStaged exFs' (stage exH exFs [['A', '/', 'f'], ['A', '/', 'g']]) ["s", "t"] [] = [("s", [115]), ("t", [116])] := by
  decide

/-- one table shared by both calls: the second call re-points `"s"` at `B/f`, and the transfer of `A`'s objects files the
    edited bytes of `B/f` under `"s"` - the store is no longer content-addressed -/
example :
    let shared := stageInto exH exFs [['B', '/', 'f']] (stage exH exFs [['A', '/', 'f'], ['A', '/', 'g']])
    transferStaged exFs' shared ["s", "t"] [] = [("s", [120]), ("t", [116])] ∧ exH [120] ≠ "s" := by
  decide

end DvcData.Staging

import DvcData.Model.Checkout
import DvcData.Proofs.AList
/-!
# C05 — checkout never destroys user data that is not recoverable from the cache

Every step of a checkout touches one key, and what was at that key either stays or has passed the guard of `_remove`,
which without force and without a yes means it is in the cache: so `Safe` is an invariant of both loops.
-/
namespace DvcData.Checkout
open DvcData Path AList

/-- nothing was lost so far: every original file is still there, or its content is in the cache -/
def Safe (cache : List Oid) (ws0 w : Ws) : Prop :=
  ∀ k f, ws0.lookup k = some f → w.lookup k = some f ∨ inCache cache f.oid = true

/-- the guard of `_remove` (hashfile/checkout.py) lets `f` go: forced, or its content is in the cache, or the prompt
    said yes -/
def MayRemove (cfg : Cfg) (cache : List Oid) (f : WFile) : Prop :=
  cfg.force = true ∨ inCache cache f.oid = true ∨ cfg.prompt = some true

section
variable {cfg : Cfg} {cache : List Oid} {w w' ws0 : Ws} {k : Key} {f : WFile}

theorem guardedRemove_eq_some_iff :
    guardedRemove cfg cache w k f = some w' ↔ MayRemove cfg cache f ∧ w.erase k = w' := by
  unfold guardedRemove MayRemove
  cases cfg.force <;> cases inCache cache f.oid <;> simp

theorem guardedRemove_eq_none_iff : guardedRemove cfg cache w k f = none ↔ ¬ MayRemove cfg cache f := by
  unfold guardedRemove MayRemove
  cases cfg.force <;> cases inCache cache f.oid <;> simp

theorem Safe.step (hs : Safe cache ws0 w) (hoff : ∀ k', k' ≠ k → w'.lookup k' = w.lookup k')
    (hat : ∀ f, w.lookup k = some f → w'.lookup k = some f ∨ inCache cache f.oid = true) : Safe cache ws0 w' := by
  intro k' f' h0
  rcases hs k' f' h0 with h | h
  · by_cases e : k' = k
    · subst e; exact hat f' h
    · exact Or.inl ((hoff k' e).trans h)
  · exact Or.inr h

theorem Safe.set {g : WFile} (hs : Safe cache ws0 w) (hk : w.lookup k = none) : Safe cache ws0 (w.set k g) :=
  hs.step (fun _ e => lookup_set_ne (Ne.symm e)) fun f' hf' => by rw [hk] at hf'; cases hf'

theorem Safe.guardedRemove (hf : cfg.force = false) (hp : cfg.prompt ≠ some true) (hs : Safe cache ws0 w)
    (hk : w.lookup k = some f) (hg : guardedRemove cfg cache w k f = some w') : Safe cache ws0 w' := by
  obtain ⟨hm, rfl⟩ := guardedRemove_eq_some_iff.mp hg
  refine hs.step (fun _ e => lookup_erase_ne (Ne.symm e)) fun f' hf' => .inr ?_
  rw [hk] at hf'
  cases hf'
  rcases hm with h | h | h
  · rw [hf] at h; cases h
  · exact h
  · exact absurd h hp

end

theorem delAll_refused {cfg : Cfg} {cache : List Oid} {ks : List Key} {w : Ws} {k : Key}
    (h : (delAll cfg cache ks w).1 = some k) :
    ∃ f, (delAll cfg cache ks w).2.lookup k = some f ∧ ¬ MayRemove cfg cache f := by
  fun_induction delAll cfg cache ks w with
  | case1 => cases h
  | case2 a r w ha ih => exact ih h  -- `a` absent
  | case3 a r w f ha hg => cases h; exact ⟨f, ha, guardedRemove_eq_none_iff.mp hg⟩  -- refused
  | case4 a r w f ha w' hg ih => exact ih h  -- removed

theorem delAll_lookup {cfg : Cfg} {cache : List Oid} {ks : List Key} {w : Ws}
    (h : (delAll cfg cache ks w).1 = none) (k : Key) :
    (delAll cfg cache ks w).2.lookup k = if k ∈ ks then none else w.lookup k := by
  fun_induction delAll cfg cache ks w with
  | case1 => simp
  | case2 a r w ha ih =>
    rw [ih h]
    by_cases e : k = a
    · subst e; simp [ha]
    · simp [e]
  | case3 => cases h
  | case4 a r w f ha w' hg ih =>
    obtain ⟨-, rfl⟩ := guardedRemove_eq_some_iff.mp hg
    rw [ih h, lookup_erase]
    by_cases e : k = a
    · simp [e]
    · simp [e, Ne.symm e]

theorem delAll_safe (cfg : Cfg) (hf : cfg.force = false) (hp : cfg.prompt ≠ some true) (cache : List Oid)
    (ws0 : Ws) : ∀ (ks : List Key) (w : Ws), Safe cache ws0 w → Safe cache ws0 (delAll cfg cache ks w).2 := by
  intro ks w
  fun_induction delAll cfg cache ks w with
  | case1 => exact id
  | case2 a r w ha ih => exact ih
  | case3 => exact id
  | case4 a r w f ha w' hg ih => exact fun hs => ih (hs.guardedRemove hf hp ha hg)

/-- when a removal is refused the file named by the error is untouched -/
theorem prompt_error_leaves_file (cfg : Cfg) (cache : List Oid) : ∀ (ks : List Key) (w : Ws) (k : Key),
    (delAll cfg cache ks w).1 = some k →
    ∃ f, (delAll cfg cache ks w).2.lookup k = some f ∧ inCache cache f.oid = false := by
  intro ks w k h
  obtain ⟨f, hk, hm⟩ := delAll_refused h
  exact ⟨f, hk, Bool.eq_false_iff.mpr fun hc => hm (.inr (.inl hc))⟩

theorem checkoutEntry_safe {cfg : Cfg} (hf : cfg.force = false) (hp : cfg.prompt ≠ some true) {cache : List Oid}
    {ws0 : Ws} {st st' : Ws × List Key} {e : Key × Oid}
    (hs : Safe cache ws0 st.1) (h : checkoutEntry cfg cache st e = some st') : Safe cache ws0 st'.1 := by
  -- the new file is only ever linked in where nothing is (any more)
  revert h
  fun_cases checkoutEntry cfg cache st e with
  | case1 w failed link hk =>  -- nothing there
    rintro ⟨⟩
    unfold link
    split
    · exact hs.set hk
    · exact hs
  | case2 => rintro ⟨⟩; exact hs  -- a copy of the wanted content, left as it is
  | case3 => exact nofun  -- refused
  | case4 w failed link f hk hcond w' hg =>  -- replaced
    rintro ⟨⟩
    have hs' := hs.guardedRemove hf hp hk hg
    obtain ⟨-, rfl⟩ := guardedRemove_eq_some_iff.mp hg
    unfold link
    split
    · exact hs'.set (lookup_erase_self w e.1)
    · exact hs'

theorem workAll_safe (cfg : Cfg) (hf : cfg.force = false) (hp : cfg.prompt ≠ some true) (cache : List Oid)
    (ws0 : Ws) : ∀ (es : List (Key × Oid)) (st : Ws × List Key), Safe cache ws0 st.1 →
      Safe cache ws0 (workAll cfg cache es st).2.1 := by
  intro es st
  fun_induction workAll cfg cache es st with
  | case1 => exact id
  | case2 => exact id
  | case3 e r st st' he ih => exact fun hs => ih (checkoutEntry_safe hf hp hs he)

/-- `checkout` is its two phases; the early exit for an empty diff is the case where both have nothing to do -/
theorem checkout_phases {cfg : Cfg} {cache : List Oid} {ws : Ws} {target : Target} {delOrder workOrder : List Key}
    {d : Option Key × Ws} {r : Option Key × Ws × List Key}
    (hd : delAll cfg cache (deletedOf ws target delOrder) ws = d)
    (hr : workAll cfg cache (workOf cfg cache ws target workOrder) (d.2, []) = r) :
    (checkout cfg cache ws target delOrder workOrder).ws = (if d.1.isSome then d.2 else r.2.1) ∧
    (d.1 = none → r.1 = none → r.2.2 = [] → ∃ b, (checkout cfg cache ws target delOrder workOrder).outcome = .ok b) := by
  subst hr hd
  fun_cases checkout cfg cache ws target delOrder workOrder with
  | case1 deleted work hempty =>  -- nothing to do
    simp only [deleted, work, Bool.and_eq_true, List.isEmpty_iff] at hempty
    rw [hempty.1, hempty.2]
    -- `fun_cases` has put `ws` for `(checkout ..).ws`; on empty lists both phases return at once (`delAll .. [] ws` is
    -- `(none, ws)`, `workAll .. [] (ws, [])` is `(none, ws, [])` by their first equations), so the right side reduces to `ws`
    exact ⟨rfl, fun _ _ _ => ⟨_, rfl⟩⟩
  | case2 deleted work hne k w heq =>  -- refused while deleting
    rw [heq]
    exact ⟨rfl, nofun⟩
  | case3 deleted work hne w1 heq k w fl heq2 =>  -- refused while linking
    rw [heq, heq2]
    exact ⟨rfl, fun _ => nofun⟩
  | case4 deleted work hne w1 heq w fl heq2 hfl =>  -- completed
    rw [heq, heq2]
    exact ⟨rfl, fun _ _ _ => ⟨_, rfl⟩⟩
  | case5 deleted work hne w1 heq w fl heq2 hfl =>  -- completed, some objects missing
    rw [heq, heq2]
    exact ⟨rfl, fun _ _ h => absurd (by rw [show fl = [] from h]; rfl) hfl⟩

/-- **C05 (main).** Without force and without an affirmative prompt, whatever the checkout did to
    the workspace — on success, on `PromptError` or on `CheckoutError`, and wherever it stopped —
    every file of the prior workspace is still there unchanged, or its content is stored in the
    cache. For all workspaces, targets, caches, iteration orders, relink on/off, all link types. -/
theorem no_unrecoverable_loss (cfg : Cfg) (hf : cfg.force = false) (hp : cfg.prompt ≠ some true)
    (cache : List Oid) (ws : Ws) (target : Target) (delOrder workOrder : List Key) (k : Key) (f : WFile)
    (h0 : ws.lookup k = some f) :
    (checkout cfg cache ws target delOrder workOrder).ws.lookup k = some f ∨ inCache cache f.oid = true := by
  have hd := delAll_safe cfg hf hp cache ws (deletedOf ws target delOrder) ws fun _ _ => Or.inl
  have hw := workAll_safe cfg hf hp cache ws (workOf cfg cache ws target workOrder) (_, []) hd
  rw [(checkout_phases rfl rfl).1]
  split
  · exact hd k f h0
  · exact hw k f h0

/-- **C05 (as called).** The same for `checkoutFrom`, which first reads the existing workspace: when that fails (a link
    to nothing among its files) the error is passed on with the workspace exactly as it was — the files of a workspace
    that could not be read are never taken for absent and written over. -/
theorem no_unrecoverable_loss_from (cfg : Cfg) (hf : cfg.force = false) (hp : cfg.prompt ≠ some true)
    (cache : List Oid) (ws : Ws) (broken : Bool) (target : Target) (delOrder workOrder : List Key) (k : Key) (f : WFile)
    (h0 : ws.lookup k = some f) :
    (checkoutFrom cfg cache ws broken target delOrder workOrder).ws.lookup k = some f ∨ inCache cache f.oid = true := by
  unfold checkoutFrom
  cases broken with
  | true => exact Or.inl h0
  | false => exact no_unrecoverable_loss cfg hf hp cache ws target delOrder workOrder k f h0

/-- an unreadable workspace is left exactly as it was, forced or not -/
theorem unreadable_untouched (cfg : Cfg) (cache : List Oid) (ws : Ws) (target : Target) (delOrder workOrder : List Key) :
    (checkoutFrom cfg cache ws true target delOrder workOrder).ws = ws ∧
    (checkoutFrom cfg cache ws true target delOrder workOrder).outcome = .unreadable := ⟨rfl, rfl⟩

/-! non-vacuity: an edited file whose content is not cached blocks the checkout -/
example : (checkout { force := false, relink := false, prompt := none, types := [.copy] } ["c1"]
    [([['a']], { oid := "edited", link := .copy })] [([['a']], "c1")] [[['a']]] [[['a']]]).outcome
    = .promptError [['a']] := by decide

end DvcData.Checkout

namespace DvcData.Links

/-- **link clean-up is conservative**: only paths that were recorded, that the caller does not list
    as in use, and that still carry exactly the recorded (inode, mtime) are returned -/
theorem unused_links_sound (links : List (Path × Stamp)) (used : List Path) (cur : Path → Option Stamp)
    (p : Path) (h : p ∈ unusedLinks links used cur) :
    p ∉ used ∧ ∃ s, (p, s) ∈ links ∧ cur p = some s := by
  simp only [unusedLinks, List.mem_map, List.mem_filter, Bool.and_eq_true, Bool.not_eq_true',
    beq_iff_eq] at h
  obtain ⟨l, ⟨hl, hu, hc⟩, rfl⟩ := h
  refine ⟨by simpa using hu, l.2, hl, hc⟩

/-- `remove_links` forgets exactly the removed paths -/
theorem remove_links_exact (links : List (Path × Stamp)) (unused : List Path) (l : Path × Stamp) :
    l ∈ removeLinks links unused ↔ (l ∈ links ∧ l.1 ∉ unused) := by
  simp [removeLinks]

end DvcData.Links

import DvcData.Model.Fetch
/-
  C18, "the fetched and failed counts add up to the objects that had to move" for the file-storage branch of `fetch`
  (the obligation the unrepaired code failed, F25: its error callback incremented a copy of the counter).
-/
namespace DvcData.Fetch
open DvcData List

theorem mem_step_cache (r : Res) (it : Item) (o : Oid) :
    o ∈ (step r it).cache ↔ o ∈ r.cache ∨ (it.oid = o ∧ it.copy = .ok) := by
  unfold step
  split
  · next h =>
    -- the object is in the cache already and the step does nothing
    have hin : it.oid ∈ r.cache := by simpa using h
    refine ⟨Or.inl, fun h' => ?_⟩
    rcases h' with h' | ⟨rfl, _⟩
    · exact h'
    · exact hin
  · cases it.copy <;> simp [eq_comm]

theorem mem_foldl_step_cache (o : Oid) : ∀ (items : List Item) (r : Res),
    o ∈ (items.foldl step r).cache ↔ o ∈ r.cache ∨ ∃ it ∈ items, it.oid = o ∧ it.copy = .ok
  | [], r => by simp
  | it :: rest, r => by
    rw [foldl_cons, mem_foldl_step_cache o rest, mem_step_cache]
    simp only [mem_cons, exists_eq_or_imp, or_assoc]

theorem step_counts (r : Res) (it : Item) :
    (step r it).fetched + (step r it).failed =
      r.fetched + r.failed + (if !r.cache.contains it.oid && it.copy != .missing then 1 else 0) ∧
    (step r it).fetched = r.fetched + (if !r.cache.contains it.oid && it.copy == .ok then 1 else 0) := by
  unfold step
  by_cases h : it.oid ∈ r.cache
  · simp [h]
  · cases it.copy <;> simp [h] <;> omega

/-- the counts a fold adds, with an arbitrary start (the induction is over the item list) -/
theorem foldl_step_counts : ∀ (items : List Item) (r : Res),
    (items.map (·.oid)).Nodup →
    (items.foldl step r).fetched + (items.foldl step r).failed =
      r.fetched + r.failed + (hadToMove r.cache items).length ∧
    (items.foldl step r).fetched = r.fetched + ((items.filter fun it => !r.cache.contains it.oid && it.copy == .ok).length)
  | [], r, _ => by simp [hadToMove]
  | it :: rest, r, hnd => by
    obtain ⟨hnotin, hnd'⟩ := nodup_cons.mp hnd
    obtain ⟨h1, h2⟩ := foldl_step_counts rest (step r it) hnd'
    obtain ⟨s1, s2⟩ := step_counts r it
    -- the objects after `it`, all different from it, are tested against the same cache as before it
    have hsame : ∀ x ∈ rest, (step r it).cache.contains x.oid = r.cache.contains x.oid := fun x hx => by
      have hne : ¬ (it.oid = x.oid ∧ it.copy = .ok) := fun e => hnotin (mem_map.mpr ⟨x, hx, e.1.symm⟩)
      rw [Bool.eq_iff_iff, contains_iff_mem, contains_iff_mem, mem_step_cache, or_iff_left hne]
    have e1 : hadToMove (step r it).cache rest = hadToMove r.cache rest :=
      filter_congr fun x hx => by rw [hsame x hx]
    have e2 : (rest.filter fun x => !(step r it).cache.contains x.oid && x.copy == .ok) =
        rest.filter fun x => !r.cache.contains x.oid && x.copy == .ok :=
      filter_congr fun x hx => by rw [hsame x hx]
    rw [foldl_cons, h1, h2, s1, s2, e1, e2]
    -- lengths of filters as counts: `countP_cons` splits the count over `it :: rest` into the count over `rest` plus the head's
    -- summand `if !r.cache.contains it.oid && it.copy != .missing then 1 else 0` (in the second equation `== .ok`) - literally the
    -- `if` that `step_counts` states (`s1`, `s2`), so both sides are the same sum and `omega` only reassociates
    unfold hadToMove
    simp only [← countP_eq_length_filter, countP_cons]
    omega

/-- **C18 (fetch from a file storage): the counts tell the truth.**  For distinct objects: `fetched + failed` is the number
    of objects that had to move (available at the source, not yet in the cache), `fetched` is the number that arrived, and the
    cache afterwards holds exactly what it held plus the objects whose copy succeeded. -/
theorem fetch_counts_add_up (cache : List Oid) (items : List Item) (hnd : (items.map (·.oid)).Nodup) :
    (fetch cache items).fetched + (fetch cache items).failed = (hadToMove cache items).length ∧
    (fetch cache items).fetched = (items.filter fun it => !cache.contains it.oid && it.copy == .ok).length ∧
    (∀ o, o ∈ (fetch cache items).cache ↔ o ∈ cache ∨ ∃ it ∈ items, it.oid = o ∧ it.copy = .ok) := by
  obtain ⟨h1, h2⟩ := foldl_step_counts items { cache, fetched := 0, failed := 0 } hnd
  exact ⟨by simpa [fetch] using h1, by simpa [fetch] using h2, fun o => mem_foldl_step_cache o items _⟩

/-- a clean retry completes the cache: afterwards every object whose source is there is in the cache -/
theorem fetch_retry_completes (cache : List Oid) (items : List Item) (hnd : (items.map (·.oid)).Nodup)
    (hclean : ∀ it ∈ items, it.copy ≠ .failed) :
    ∀ it ∈ items, it.copy ≠ .missing → it.oid ∈ (fetch cache items).cache := by
  intro it hit hm
  refine ((fetch_counts_add_up cache items hnd).2.2 it.oid).mpr (Or.inr ⟨it, hit, rfl, ?_⟩)
  cases hk : it.copy with
  | ok => rfl
  | missing => exact absurd hk hm
  | failed => exact absurd hk (hclean it hit)

/-- the hypotheses are met: three objects, one already cached, one failing, one missing at the source -/
example : fetch ["c"] [⟨"a", .ok⟩, ⟨"b", .failed⟩, ⟨"c", .ok⟩, ⟨"d", .missing⟩] = { cache := ["c", "a"], fetched := 1, failed := 1 } := by
  decide

end DvcData.Fetch

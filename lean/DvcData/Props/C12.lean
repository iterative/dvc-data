import DvcData.Proofs.Sets
import DvcData.Proofs.Transfer
/-!
# C12 — status is exact and the remote index never invents objects
-/
namespace DvcData.Status
open DvcData

variable {Oid : Type} [DecidableEq Oid]

/-- the identifiers a request asks about: the request itself, expanded by the listings of its
    directory objects unless `shallow` -/
def Asked (env : Env Oid) (shallow : Bool) (req : List Oid) (x : Oid) : Prop :=
  x ∈ req ∨ (shallow = false ∧ ∃ d ∈ req, env.isDir d = true ∧ ∃ es, env.load d = some es ∧ x ∈ es)

omit [DecidableEq Oid] in
theorem asked_iff {env : Env Oid} {shallow : Bool} {req : List Oid} {x : Oid} :
    Asked env shallow req x ↔ ∃ v ∈ req, x = v ∨ x ∈ listed env shallow v := by
  simp only [Asked, mem_listed]
  constructor
  · rintro (h | ⟨hs, d, hd, h⟩)
    · exact ⟨x, h, Or.inl rfl⟩
    · exact ⟨d, hd, Or.inr ⟨hs, h⟩⟩
  · rintro ⟨v, hv, rfl | ⟨hs, h⟩⟩
    · exact Or.inl hv
    · exact Or.inr ⟨hs, v, hv, h⟩

theorem collect_cons {env : Env Oid} {shallow useIndex : Bool} {x : Oid} {r hs : List Oid}
    {ds : List (Oid × Option (List Oid))} {out : List Oid × List (Oid × Option (List Oid))}
    (h : collect env shallow useIndex (x :: r) hs ds = .ok out) :
    collect env shallow useIndex r (insertSet (union hs (listed env shallow x)) x)
      (if useIndex && env.isDir x then ds ++ [(x, if shallow then none else env.load x)] else ds) = .ok out := by
  unfold listed
  rw [collect] at h
  -- `union hs [] = hs` by computation, so `exact h` closes the branches that expand nothing
  cases hd : env.isDir x
  · simp only [hd, Bool.false_eq_true, if_false, Bool.false_and, Bool.and_false] at h ⊢; exact h
  · cases shallow
    · cases hl : env.load x
      · simp only [hd, hl, if_true, Bool.false_eq_true, if_false] at h; cases h
      · simp only [hd, hl, if_true, Bool.false_eq_true, if_false, Bool.not_false, Bool.and_self, Bool.and_true,
          Option.getD_some] at h ⊢
        exact h
    · simp only [hd, if_true, Bool.not_true, Bool.and_false, Bool.false_eq_true, if_false, Bool.and_true] at h ⊢
      exact h

theorem mem_collect (env : Env Oid) (shallow useIndex : Bool) :
    ∀ (req hs : List Oid) (ds : List (Oid × Option (List Oid))) (hashes : List Oid)
      (dirObjs : List (Oid × Option (List Oid))),
      collect env shallow useIndex req hs ds = .ok (hashes, dirObjs) →
      ∀ x, x ∈ hashes ↔ (x ∈ hs ∨ Asked env shallow req x) := by
  intro req
  induction req with
  | nil =>
    intro hs ds hashes dirObjs h x
    cases h
    simp [asked_iff]
  | cons y r ih =>
    intro hs ds hashes dirObjs h x
    rw [ih _ _ hashes dirObjs (collect_cons h) x, mem_insertSet, mem_union]
    -- `((x ∈ hs ∨ x ∈ listed .. y) ∨ x = y) ∨ Asked .. r x` against `x ∈ hs ∨ Asked .. (y :: r) x`: the same disjuncts
    simp only [asked_iff, List.mem_cons, exists_eq_or_imp, or_assoc, or_left_comm]

theorem collect_dirObjs {env : Env Oid} {shallow : Bool} {req hs : List Oid} {ds : List (Oid × Option (List Oid))}
    {hashes : List Oid} {dirObjs : List (Oid × Option (List Oid))}
    (h : collect env shallow true req hs ds = .ok (hashes, dirObjs)) :
    dirObjs = ds ++ (req.filter env.isDir).map fun x => (x, if shallow then none else env.load x) := by
  induction req generalizing hs ds with
  | nil => cases h; simp
  | cons y r ih =>
    rw [ih (collect_cons h)]
    cases hd : env.isDir y <;> simp [hd]

/-- **status without an index is exact**: `exists` = asked ∩ store, `missing` = asked \ store -/
theorem status_exact (env : Env Oid) (store : List Oid) (shallow : Bool) (req : List Oid)
    (o : StatusOut Oid) (h : status env store none shallow req = .ok o) (x : Oid) :
    (x ∈ o.exist ↔ (Asked env shallow req x ∧ x ∈ store)) ∧
    (x ∈ o.missing ↔ (Asked env shallow req x ∧ x ∉ store)) := by
  unfold status at h
  split at h
  · cases h
  · next hashes dirObjs hc =>
    have hm := mem_collect env shallow false req [] [] hashes dirObjs (by simpa using hc) x
    cases h
    simp only [mem_inter, mem_diff_inter, hm, List.not_mem_nil, false_or, and_self]

/-- exists and missing partition what was asked -/
theorem status_partition (env : Env Oid) (store : List Oid) (shallow : Bool) (req : List Oid)
    (o : StatusOut Oid) (h : status env store none shallow req = .ok o) (x : Oid) :
    (Asked env shallow req x ↔ (x ∈ o.exist ∨ x ∈ o.missing)) ∧ ¬ (x ∈ o.exist ∧ x ∈ o.missing) := by
  obtain ⟨h1, h2⟩ := status_exact env store shallow req o h x
  rw [h1, h2]
  by_cases hs : x ∈ store <;> simp [hs]

/-- **compare_status is the four-way partition of the two individual answers** (when the
    source is consulted, i.e. something is missing from the destination or `check_deleted`) -/
theorem compare_partition (env : Env Oid) (src dest : List Oid) (shallow : Bool) (req : List Oid)
    (c : Compare Oid) (s d : StatusOut Oid)
    (hd : status env dest none shallow req = .ok d) (hs : status env src none shallow req = .ok s)
    (h : compareStatus env env src dest false none shallow true req = .ok c) (x : Oid) :
    (x ∈ c.ok ↔ (x ∈ s.exist ∧ x ∈ d.exist)) ∧ (x ∈ c.new ↔ (x ∈ s.exist ∧ x ∉ d.exist)) ∧
    (x ∈ c.deleted ↔ (x ∈ d.exist ∧ x ∉ s.exist)) ∧ (x ∈ c.missing ↔ (x ∈ s.missing ∧ x ∈ d.missing)) := by
  unfold compareStatus at h
  simp only [hd, hs, Bool.or_true, if_true, Bool.false_eq_true, if_false] at h
  injection h with h
  subst h
  simp [mem_inter, mem_diff]

/-- in terms of the stores: new = asked, in the source, not in the destination; etc. -/
theorem compare_exact (env : Env Oid) (src dest : List Oid) (shallow : Bool) (req : List Oid)
    (c : Compare Oid) (h : compareStatus env env src dest false none shallow true req = .ok c) (x : Oid) :
    (x ∈ c.ok ↔ (Asked env shallow req x ∧ x ∈ src ∧ x ∈ dest)) ∧
    (x ∈ c.new ↔ (Asked env shallow req x ∧ x ∈ src ∧ x ∉ dest)) ∧
    (x ∈ c.deleted ↔ (Asked env shallow req x ∧ x ∈ dest ∧ x ∉ src)) ∧
    (x ∈ c.missing ↔ (Asked env shallow req x ∧ x ∉ src ∧ x ∉ dest)) := by
  cases hd : status env dest none shallow req with
  | notFound => simp [compareStatus, hd] at h
  | ok d =>
    cases hs : status env src none shallow req with
    | notFound => simp [compareStatus, hd, hs] at h
    | ok s =>
      obtain ⟨p1, p2, p3, p4⟩ := compare_partition env src dest shallow req c s d hd hs h x
      obtain ⟨d1, d2⟩ := status_exact env dest shallow req d hd x
      obtain ⟨s1, s2⟩ := status_exact env src shallow req s hs x
      rw [p1, p2, p3, p4, d1, d2, s1, s2]
      by_cases ha : Asked env shallow req x <;> simp [ha]

/-! ## with a remote index -/

/-- an index is well-typed: what it records as directory is a directory identifier, what it
    records as file is not -/
def IndexWF (env : Env Oid) (i : RIndex Oid) : Prop :=
  (∀ d ∈ i.dirs, env.isDir d = true) ∧ (∀ f ∈ i.files, env.isDir f = false)

/-- every directory recorded by the index is in the store -/
def DirsPresent (store : List Oid) (i : RIndex Oid) : Prop := ∀ d ∈ i.dirs, d ∈ store

/-- directory listings contain file identifiers only -/
def FilesOnly (env : Env Oid) (dirObjs : List (Oid × Option (List Oid))) : Prop :=
  ∀ d es, treeOf env dirObjs d = some es → ∀ f ∈ es, env.isDir f = false

/-- the trees remembered while collecting are the ones `Tree.load` gives -/
def DirObjsSound (env : Env Oid) (dirObjs : List (Oid × Option (List Oid))) : Prop :=
  ∀ d es, treeOf env dirObjs d = some es → env.load d = some es

theorem mem_update_dirs {i : RIndex Oid} {d : Oid} {fs : List Oid} {x : Oid} :
    x ∈ (i.update d fs).dirs ↔ (x ∈ i.dirs ∨ x = d) ∧ x ∉ fs := by
  simp [RIndex.update, mem_insertSet]

theorem mem_update_files {i : RIndex Oid} {d : Oid} {fs : List Oid} {x : Oid} :
    x ∈ (i.update d fs).files ↔ (x ∈ i.files ∧ x ≠ d) ∨ x ∈ fs := by
  simp [RIndex.update, mem_union]

theorem mem_update_keys {i : RIndex Oid} {d : Oid} {fs : List Oid} {x : Oid} :
    x ∈ (i.update d fs).keys → x ∈ i.keys ∨ x = d ∨ x ∈ fs := by
  simp only [RIndex.keys, List.mem_append, mem_update_dirs, mem_update_files]
  rintro (⟨h | h, _⟩ | (⟨h, _⟩ | h))
  · exact Or.inl (Or.inl h)
  · exact Or.inr (Or.inl h)
  · exact Or.inl (Or.inr h)
  · exact Or.inr (Or.inr h)

theorem update_wf {env : Env Oid} {i : RIndex Oid} {d : Oid} {fs : List Oid} (hw : IndexWF env i)
    (hd : env.isDir d = true) (hf : ∀ f ∈ fs, env.isDir f = false) : IndexWF env (i.update d fs) :=
  ⟨fun x hx => (mem_update_dirs.mp hx).1.elim (hw.1 x) fun e => e ▸ hd,
   fun x hx => (mem_update_files.mp hx).elim (fun h => hw.2 x h.1) (hf x)⟩

/-- the two cases of `validated`: every recorded directory is in the store and the index is kept, or one is gone and the
    index is emptied (`validated_stale`, `validated_props` are read off it) -/
theorem validated_cases (store : List Oid) (i : RIndex Oid) :
    (DirsPresent store i ∧ validated store i = i) ∨ ((∃ d ∈ i.dirs, d ∉ store) ∧ validated store i = {}) := by
  unfold validated
  split
  · next he =>
    refine Or.inl ⟨fun d hd => Decidable.byContradiction fun hn => ?_, rfl⟩
    have : d ∈ diff i.dirs (inter i.dirs store) := mem_diff_inter.mpr ⟨hd, hn⟩
    rw [List.isEmpty_iff.mp he] at this; cases this
  · next he =>
    obtain ⟨d, hd⟩ := List.exists_mem_of_ne_nil _ (mt List.isEmpty_iff.mpr he)
    exact Or.inr ⟨⟨d, mem_diff_inter.mp hd⟩, rfl⟩

theorem validated_stale (store : List Oid) (i : RIndex Oid) (h : ∃ d ∈ i.dirs, d ∉ store) :
    validated store i = {} := by
  rcases validated_cases store i with ⟨hp, _⟩ | ⟨_, h'⟩
  · obtain ⟨d, hd, hn⟩ := h
    exact absurd (hp d hd) hn
  · exact h'

theorem validated_props (env : Env Oid) (store : List Oid) (i : RIndex Oid) (hw : IndexWF env i) :
    IndexWF env (validated store i) ∧ DirsPresent store (validated store i) ∧
    (∀ x ∈ (validated store i).keys, x ∈ i.keys) := by
  rcases validated_cases store i with ⟨hp, h⟩ | ⟨_, h⟩ <;> rw [h]
  · exact ⟨hw, hp, fun x h => h⟩
  · exact ⟨⟨nofun, nofun⟩, nofun, nofun⟩

theorem dirExistsOf_sub {store : List Oid} {i : RIndex Oid} {dirObjs : List (Oid × Option (List Oid))} {d : Oid}
    (h : d ∈ dirExistsOf store i dirObjs) : d ∈ store ∧ d ∈ dirObjs.map (·.1) := by
  simp only [dirExistsOf, mem_union, mem_inter, mem_diff, mem_dedup] at h
  rcases h with ⟨h1, _, h2⟩ | ⟨⟨h1, _⟩, h2⟩
  · exact ⟨h2, h1⟩
  · exact ⟨h2, h1⟩

/-- invariant of the loop of `_indexed_dir_hashes` -/
structure IdhInv (env : Env Oid) (store : List Oid) (i0 : RIndex Oid) (acc : List Oid × RIndex Oid) : Prop where
  wf : IndexWF env acc.2
  present : DirsPresent store acc.2
  assumedDirs : ∀ x ∈ acc.1, env.isDir x = true → x ∈ store
  /-- nothing is invented: every key of the index was already a key, or is a directory that is in
      the store now, or is listed by one -/
  sound : ∀ x ∈ acc.2.keys, x ∈ i0.keys ∨ (x ∈ store ∧ env.isDir x = true) ∨
            ∃ d es, d ∈ store ∧ env.isDir d = true ∧ env.load d = some es ∧ x ∈ es
  /-- what is assumed present is a directory object that is in the store, or is listed by one -/
  assumedSound : ∀ x ∈ acc.1, (x ∈ store ∧ env.isDir x = true) ∨
            ∃ d es, d ∈ store ∧ env.isDir d = true ∧ env.load d = some es ∧ x ∈ es

theorem idhStep_inv {env : Env Oid} {store : List Oid} {i0 : RIndex Oid}
    {dirObjs : List (Oid × Option (List Oid))} (hfo : FilesOnly env dirObjs) (hso : DirObjsSound env dirObjs)
    {acc : List Oid × RIndex Oid} {d : Oid} (hd : d ∈ store) (hdir : env.isDir d = true)
    (hinv : IdhInv env store i0 acc) : IdhInv env store i0 (idhStep env dirObjs acc d) := by
  unfold idhStep
  split
  · exact hinv
  · rename_i fs ht
    have hfs := hfo d fs ht
    have hload := hso d fs ht
    have hassumed : ∀ x ∈ acc.1 ++ fs ++ [d], env.isDir x = true → x ∈ store := by
      intro x hx hxd
      simp only [List.mem_append, List.mem_singleton] at hx
      rcases hx with (h | h) | rfl
      · exact hinv.assumedDirs x h hxd
      · rw [hfs x h] at hxd; cases hxd
      · exact hd
    have hasound : ∀ x ∈ acc.1 ++ fs ++ [d], (x ∈ store ∧ env.isDir x = true) ∨
        ∃ d es, d ∈ store ∧ env.isDir d = true ∧ env.load d = some es ∧ x ∈ es := by
      intro x hx
      simp only [List.mem_append, List.mem_singleton] at hx
      rcases hx with (h | h) | rfl
      · exact hinv.assumedSound x h
      · exact Or.inr ⟨d, fs, hd, hdir, hload, h⟩
      · exact Or.inl ⟨hd, hdir⟩
    split
    · exact ⟨hinv.wf, hinv.present, hassumed, hinv.sound, hasound⟩
    · refine ⟨update_wf hinv.wf hdir hfs, fun x hx => (mem_update_dirs.mp hx).1.elim (hinv.present x) fun e => e ▸ hd, hassumed, ?_, hasound⟩
      intro x hx
      rcases mem_update_keys hx with h | rfl | h
      · exact hinv.sound x h
      · exact Or.inr (Or.inl ⟨hd, hdir⟩)
      · exact Or.inr (Or.inr ⟨d, fs, hd, hdir, hload, h⟩)

omit [DecidableEq Oid] in
theorem IdhInv.mono {env : Env Oid} {store : List Oid} {i0 i1 : RIndex Oid} {acc : List Oid × RIndex Oid}
    (h : IdhInv env store i0 acc) (hk : ∀ x ∈ i0.keys, x ∈ i1.keys) : IdhInv env store i1 acc :=
  { h with sound := fun x hx => (h.sound x hx).imp_left (hk x) }

/-- relative to the *validated* index: what the validation kept is the only thing taken on trust -/
theorem indexedDirHashes_inv_validated (env : Env Oid) (store : List Oid) (i : RIndex Oid)
    (dirObjs : List (Oid × Option (List Oid))) (hw : IndexWF env i) (hfo : FilesOnly env dirObjs)
    (hso : DirObjsSound env dirObjs) (hdirs : ∀ d ∈ dirObjs.map (·.1), env.isDir d = true) :
    IdhInv env store (validated store i) (indexedDirHashes env store i dirObjs) := by
  obtain ⟨v1, v2, _⟩ := validated_props env store i hw
  refine List.foldlRecOn (motive := IdhInv env store (validated store i)) _ _
    ⟨v1, v2, nofun, fun x hx => Or.inl hx, nofun⟩ fun acc hacc d hd => ?_
  obtain ⟨h1, h2⟩ := dirExistsOf_sub hd
  exact idhStep_inv hfo hso h1 (hdirs d h2) hacc

/-- what `_indexed_dir_hashes` returns -/
theorem indexedDirHashes_inv (env : Env Oid) (store : List Oid) (i : RIndex Oid)
    (dirObjs : List (Oid × Option (List Oid))) (hw : IndexWF env i) (hfo : FilesOnly env dirObjs)
    (hso : DirObjsSound env dirObjs) (hdirs : ∀ d ∈ dirObjs.map (·.1), env.isDir d = true) :
    IdhInv env store i (indexedDirHashes env store i dirObjs) :=
  (indexedDirHashes_inv_validated env store i dirObjs hw hfo hso hdirs).mono (validated_props env store i hw).2.2

/-- listings only contain file identifiers -/
def FilesOnlyEnv (env : Env Oid) : Prop := ∀ d es, env.load d = some es → ∀ f ∈ es, env.isDir f = false

/-- invariant of `collect`'s accumulators when an index is used -/
structure CollInv (env : Env Oid) (hs : List Oid) (ds : List (Oid × Option (List Oid))) : Prop where
  loaded : ∀ p ∈ ds, ∀ es, p.2 = some es → env.load p.1 = some es
  dirs : ∀ p ∈ ds, env.isDir p.1 = true
  covered : ∀ x ∈ hs, env.isDir x = true → x ∈ ds.map (·.1)

theorem collect_inv {env : Env Oid} (hfe : FilesOnlyEnv env) {shallow : Bool} {req hs : List Oid}
    {ds : List (Oid × Option (List Oid))} {hashes : List Oid} {dirObjs : List (Oid × Option (List Oid))}
    (h : collect env shallow true req hs ds = .ok (hashes, dirObjs)) (hinv : CollInv env hs ds) :
    CollInv env hashes dirObjs := by
  have hds := collect_dirObjs h
  have hnew : ∀ p ∈ dirObjs, p ∈ ds ∨
      (p.1 ∈ req ∧ env.isDir p.1 = true ∧ p.2 = if shallow then none else env.load p.1) := by
    intro p hp
    rw [hds] at hp
    rcases List.mem_append.mp hp with hp | hp
    · exact Or.inl hp
    · obtain ⟨x, hx, rfl⟩ := List.mem_map.mp hp
      exact Or.inr ⟨(List.mem_filter.mp hx).1, (List.mem_filter.mp hx).2, rfl⟩
  refine ⟨fun p hp es he => ?_, fun p hp => ?_, fun x hx hxd => ?_⟩
  · rcases hnew p hp with hp | ⟨_, _, h2⟩
    · exact hinv.loaded p hp es he
    · rw [h2] at he
      cases shallow
      · exact he
      · cases he
  · rcases hnew p hp with hp | ⟨_, h1, _⟩
    · exact hinv.dirs p hp
    · exact h1
  · rw [hds, List.map_append, List.mem_append]
    rcases (mem_collect env shallow true req hs ds hashes dirObjs h x).mp hx with hx | hx
    · exact Or.inl (hinv.covered x hx hxd)
    · obtain ⟨v, hv, rfl | hl⟩ := asked_iff.mp hx
      · exact Or.inr (List.mem_map.mpr ⟨(x, _), List.mem_map.mpr ⟨x, List.mem_filter.mpr ⟨hv, hxd⟩, rfl⟩, rfl⟩)
      · obtain ⟨_, _, es, hl', hxe⟩ := mem_listed.mp hl
        rw [hfe v es hl' x hxe] at hxd; cases hxd

theorem treeOf_sound {env : Env Oid} {ds : List (Oid × Option (List Oid))}
    (hl : ∀ p ∈ ds, ∀ es, p.2 = some es → env.load p.1 = some es) : DirObjsSound env ds := by
  intro d es h
  unfold treeOf at h
  split at h
  · next es' hf =>
    cases h
    obtain ⟨p, hfind, hp2⟩ := Option.bind_eq_some_iff.mp hf
    have hk : p.1 = d := by simpa using List.find?_some hfind
    rw [← hk]
    exact hl p (List.mem_of_find?_eq_some hfind) _ hp2
  · exact h

/-- how `status` answers with an index - the handle for the two theorems below: the request was empty and nothing changes,
    or index and answer come from an accumulator of `_indexed_dir_hashes` that satisfies `IdhInv` relative to the validated index -/
theorem status_index_ok {env : Env Oid} (hfe : FilesOnlyEnv env) {store : List Oid} {idx : RIndex Oid}
    (hw : IndexWF env idx) {shallow : Bool} {req : List Oid} {o : StatusOut Oid}
    (h : status env store (some idx) shallow req = .ok o) :
    (req = [] ∧ o.exist = [] ∧ o.index = some idx) ∨
    ∃ acc, IdhInv env store (validated store idx) acc ∧ o.index = some acc.2 ∧
      ∀ x ∈ o.exist, x ∈ acc.1 ∨ x ∈ acc.2.keys ∨ x ∈ store := by
  unfold status at h
  split at h
  · cases h
  · next hashes dirObjs hc =>
    simp only [Option.isSome_some] at hc
    simp only at h   -- reduces the `let`s and the pattern match of `status`
    split at h
    · next he =>
      -- no identifier to query: the request was empty
      cases h
      refine Or.inl ⟨List.eq_nil_iff_forall_not_mem.mpr fun d hd => ?_, rfl, rfl⟩
      have : d ∈ hashes := (mem_collect env shallow true req [] [] hashes dirObjs hc d).mpr (Or.inr (Or.inl hd))
      rw [List.isEmpty_iff.mp he] at this; cases this
    · cases h
      have hinv := collect_inv hfe hc ⟨nofun, nofun, nofun⟩
      have hso := treeOf_sound hinv.loaded
      -- `acc` is what `_indexed_dir_hashes` returns, `(assumed, idx1)` in `status`; the answer's `index` is `some idx1` (the `rfl`)
      refine Or.inr ⟨indexedDirHashes env store idx dirObjs, indexedDirHashes_inv_validated env store idx dirObjs hw
        (fun d es ht => hfe d es (hso d es ht)) hso fun d hd => ?_, rfl, fun x hx => ?_⟩
      · obtain ⟨p, hp, rfl⟩ := List.mem_map.mp hd
        exact hinv.dirs p hp
      · -- `exist = ex2 ∪ (rest2 ∩ store)`: what was assumed (`ex1 = hashes ∩ assumed`), then what of the rest the index holds
        -- (`ex2 = ex1 ∪ (rest1 ∩ idx1.keys)`, or `ex1` alone when `rest1` is empty), then what of the rest the store holds
        rcases mem_union.mp hx with h1 | h1
        · split at h1   -- the `if rest1.isEmpty` of `ex2`
          · exact Or.inl (mem_inter.mp h1).2
          · rcases mem_union.mp h1 with h1 | h1
            · exact Or.inl (mem_inter.mp h1).2
            · exact Or.inr (Or.inl (mem_inter.mp h1).2)
        · exact Or.inr (Or.inr (mem_inter.mp h1).2)

/-- **with a remote index, a directory object is reported as existing only if it is in the
    store at query time; the index stays well-typed, never invents an identifier, and after any
    non-empty query - whether or not it names a directory - every directory it records is in the store** -/
theorem status_index_sound (env : Env Oid) (hfe : FilesOnlyEnv env) (store : List Oid) (idx : RIndex Oid)
    (hw : IndexWF env idx) (shallow : Bool) (req : List Oid) (o : StatusOut Oid)
    (h : status env store (some idx) shallow req = .ok o) :
    (∀ x ∈ o.exist, env.isDir x = true → x ∈ store) ∧
    ∃ idx', o.index = some idx' ∧ IndexWF env idx' ∧
      (∀ x ∈ idx'.keys, x ∈ idx.keys ∨ (x ∈ store ∧ env.isDir x = true) ∨
          ∃ d es, d ∈ store ∧ env.isDir d = true ∧ env.load d = some es ∧ x ∈ es) ∧
      (req ≠ [] → DirsPresent store idx') := by
  rcases status_index_ok hfe hw h with ⟨hr, he, hi⟩ | ⟨acc, hI, hi, hex⟩
  · exact ⟨by rw [he]; nofun, idx, hi, hw, fun x hx => Or.inl hx, fun hne => absurd hr hne⟩
  · -- the index is validated whatever the request names (repaired code: also for a request of files only)
    refine ⟨fun x hx hxd => ?_, _, hi, hI.wf, (hI.mono (validated_props env store idx hw).2.2).sound, fun _ => hI.present⟩
    rcases hex x hx with h1 | h1 | h1
    · exact hI.assumedDirs x h1 hxd
    · -- a key of a well-typed index that is a directory identifier is one of its directories
      rcases List.mem_append.mp h1 with h1 | h1
      · exact hI.present x h1
      · rw [hI.wf.2 x h1] at hxd; cases hxd
    · exact h1

/-- **a stale index is never trusted** (the repaired `status`): when a directory object the index records is gone from
    the store, then - whatever the request names, directories or files only - every identifier reported as existing
    is in the store or is listed by a directory object that is in the store; nothing is vouched for by the index. -/
theorem status_stale_index_not_trusted (env : Env Oid) (hfe : FilesOnlyEnv env) (store : List Oid) (idx : RIndex Oid)
    (hw : IndexWF env idx) (shallow : Bool) (req : List Oid) (o : StatusOut Oid)
    (h : status env store (some idx) shallow req = .ok o) (hstale : ∃ d ∈ idx.dirs, d ∉ store) :
    ∀ x ∈ o.exist, x ∈ store ∨ ∃ d es, d ∈ store ∧ env.isDir d = true ∧ env.load d = some es ∧ x ∈ es := by
  rcases status_index_ok hfe hw h with ⟨_, he, _⟩ | ⟨acc, hI, _, hex⟩
  · rw [he]; nofun
  · -- the validation has emptied the index, so its keys afterwards come from directories found in the store
    rw [validated_stale store idx hstale] at hI
    intro x hx
    rcases hex x hx with h1 | h1 | h1
    · exact (hI.assumedSound x h1).imp_left And.left
    · rcases hI.sound x h1 with h2 | h2 | h2
      · cases h2
      · exact Or.inl h2.1
      · exact Or.inr h2
    · exact Or.inl h1

/-- the hypotheses are met: an index that still records directory `10` (and its file `1`) after the store lost both;
    a request naming the file only is answered "missing" by the repaired `status` (the unrepaired one answered "exists") -/
example :
    let env : Env Nat := { isDir := fun o => decide (o ≥ 10), load := fun o => if o = 10 then some [1] else none }
    let idx : RIndex Nat := { dirs := [10], files := [1] }
    (∃ d ∈ idx.dirs, d ∉ ([] : List Nat)) ∧
    status env [] (some idx) true [1] = .ok { exist := [], missing := [1], index := some {} } := by
  refine ⟨⟨10, by simp, by simp⟩, ?_⟩
  rfl

end DvcData.Status

namespace DvcData.Transfer
open DvcData Status

variable {Oid : Type} [DecidableEq Oid]

theorem doTransfer_okDirs (cx : Ctx Oid) (s : St Oid) (dirs : List Oid) (x : Oid)
    (h : x ∈ (doTransfer cx s dirs).okDirs) : x ∈ s.okDirs ∨ x ∈ (doTransfer cx s dirs).dest :=
  ((doTransfer_run cx s dirs).okDirs_sub x h).imp_right And.right

theorem indexDirs_sound {cx : Ctx Oid} {ds : List Oid} {i : RIndex Oid} (x : Oid)
    (h : x ∈ (indexDirs cx i ds).keys) : x ∈ i.keys ∨ x ∈ ds ∨ ∃ d ∈ ds, x ∈ cx.L d := by
  revert x
  refine List.foldlRecOn (motive := fun j : RIndex Oid => ∀ x ∈ j.keys, x ∈ i.keys ∨ x ∈ ds ∨ ∃ d ∈ ds, x ∈ cx.L d) ds _
    (fun x h => Or.inl h) fun j hj d hd x hx => ?_
  rcases mem_update_keys hx with h | rfl | h
  · exact hj x h
  · exact Or.inr (Or.inl hd)
  · exact Or.inr (Or.inr ⟨d, hd, h⟩)

/-- **a transfer never makes the index invent an object**: every identifier the destination
    index holds afterwards was held before, or is a directory object that is in the destination
    now, or is listed by one. (The index is only touched when nothing failed.) -/
theorem transfer_index_sound (cx : Ctx Oid) (dest0 new dirOrder : List Oid) (idx : RIndex Oid) (x : Oid)
    (i' : RIndex Oid) (hi : (transferWith cx dest0 new (some idx) dirOrder).destIndex = some i')
    (hx : x ∈ i'.keys) :
    x ∈ idx.keys ∨ x ∈ (transferWith cx dest0 new (some idx) dirOrder).dest ∨
      ∃ d ∈ (transferWith cx dest0 new (some idx) dirOrder).dest, x ∈ cx.L d := by
  rcases transferWith_destIndex cx dest0 new (some idx) dirOrder with h | ⟨hne, h⟩ <;> rw [h] at hi <;> cases hi
  · exact Or.inl hx
  · rw [transferWith_dest hne]
    have hok : ∀ d ∈ (doTransfer cx (start cx dest0 new) dirOrder).okDirs,
        d ∈ (doTransfer cx (start cx dest0 new) dirOrder).dest :=
      fun d hd => (doTransfer_okDirs cx _ dirOrder d hd).resolve_left nofun
    rcases indexDirs_sound x hx with h | h | ⟨d, hd, hxd⟩
    · exact Or.inl h
    · exact Or.inr (Or.inl (hok x h))
    · exact Or.inr (Or.inr ⟨d, hok d hd, hxd⟩)

/-! ## histories: transfers with failures, external deletions and additions, status queries -/

/-- the world of a history: the remote store, the index kept for it, and the history variable
    `ever` = every identifier that was in the store at some point -/
structure World (Oid : Type) where
  store : List Oid
  idx : RIndex Oid
  ever : List Oid

inductive HOp (Oid : Type)
  /-- `status(remote, req, index=idx)`; `loadable d` = the directory object can be loaded from the cache -/
  | query (shallow : Bool) (req : List Oid) (loadable : Oid → Bool)
  /-- `transfer(..., dest_index=idx)` of the new objects `new`, directories in order `dirOrder`, with failing uploads -/
  | xfer (new dirOrder missing : List Oid) (fails : Oid → Bool)
  /-- somebody deletes an object from the remote behind the index's back -/
  | del (x : Oid)
  /-- somebody else puts an object there -/
  | extAdd (x : Oid)

variable (L : Oid → List Oid) (isDir : Oid → Bool)

def envOf (loadable : Oid → Bool) : Env Oid :=
  { isDir := isDir, load := fun d => if loadable d then some (L d) else none }

def stepH (w : World Oid) : HOp Oid → World Oid
  | .query sh req ld =>
    match status (envOf L isDir ld) w.store (some w.idx) sh req with
    | .ok o => (match o.index with | some i => { w with idx := i } | none => w)
    | .notFound => w
  | .xfer new order missing fails =>
    let r := transferWith ⟨L, isDir, fails, missing⟩ w.store new (some w.idx) order
    { store := r.dest, idx := (match r.destIndex with | some i => i | none => w.idx), ever := w.ever ++ r.dest }
  | .del x => { w with store := w.store.filter (· ≠ x) }
  | .extAdd x => { w with store := x :: w.store, ever := x :: w.ever }

def runH (w : World Oid) (ops : List (HOp Oid)) : World Oid := ops.foldl (stepH L isDir) w

/-- transfers process directory identifiers in their per-directory loop -/
def HOp.ok : HOp Oid → Prop
  | .xfer _ order _ _ => ∀ d ∈ order, isDir d = true
  | _ => True

/-- **the index never invents an object**: whatever it holds was in the store at some point of
    the history, or is listed by a directory object that was -/
structure HInv (w : World Oid) : Prop where
  noInvent : ∀ x ∈ w.idx.keys, x ∈ w.ever ∨ ∃ d ∈ w.ever, x ∈ L d
  storeEver : ∀ x ∈ w.store, x ∈ w.ever
  wf : IndexWF (envOf L isDir fun _ => true) w.idx

omit [DecidableEq Oid] in
variable {L isDir} in
theorem envOf_load {ld : Oid → Bool} {d : Oid} {es : List Oid} (h : (envOf L isDir ld).load d = some es) : es = L d := by
  simp only [envOf] at h
  split at h
  · exact (Option.some.inj h).symm
  · cases h

theorem stepH_inv (hL : ∀ d f, f ∈ L d → isDir f = false) (w : World Oid) (op : HOp Oid)
    (hop : op.ok isDir) (hi : HInv L isDir w) : HInv L isDir (stepH L isDir w op) := by
  -- `ever` only grows, and what an index may hold is monotone in it
  have grow : ∀ {ever' : List Oid}, (∀ y ∈ w.ever, y ∈ ever') → ∀ x ∈ w.idx.keys, x ∈ ever' ∨ ∃ d ∈ ever', x ∈ L d :=
    fun he x hx => (hi.noInvent x hx).imp (he x) fun ⟨d, hd, h⟩ => ⟨d, he d hd, h⟩
  cases op with
  | query sh req ld =>
    simp only [stepH]
    cases hs : status (envOf L isDir ld) w.store (some w.idx) sh req with
    | notFound => exact hi
    | ok o =>
      have hfe : FilesOnlyEnv (envOf L isDir ld) := fun d es hl f hf => hL d f (envOf_load hl ▸ hf)
      -- `hi.wf` is stated for `envOf L isDir fun _ => true`; `IndexWF` reads only `isDir`, so it serves for `ld` as well
      obtain ⟨_, idx', ho, hw', hk, _⟩ := status_index_sound (envOf L isDir ld) hfe w.store w.idx hi.wf sh req o hs
      simp only [ho]
      refine ⟨fun x hx => ?_, hi.storeEver, hw'⟩
      rcases hk x hx with h | ⟨h, _⟩ | ⟨d, es, hd, _, hl, hxe⟩
      · exact hi.noInvent x h
      · exact Or.inl (hi.storeEver x h)
      · exact Or.inr ⟨d, hi.storeEver d hd, envOf_load hl ▸ hxe⟩
  | xfer new order missing fails =>
    simp only [stepH]
    rcases transferWith_destIndex ⟨L, isDir, fails, missing⟩ w.store new (some w.idx) order with h | ⟨hne, h⟩
    · rw [h]
      exact ⟨grow fun y => List.mem_append_left _, fun x => List.mem_append_right _, hi.wf⟩
    · simp only [h, Option.map_some]
      refine ⟨fun x hx => ?_, fun x => List.mem_append_right _, ?_⟩
      · rcases transfer_index_sound ⟨L, isDir, fails, missing⟩ w.store new order w.idx x _ h hx with h1 | h1 | ⟨d, hd, hxd⟩
        · exact grow (fun y => List.mem_append_left _) x h1
        · exact Or.inl (List.mem_append_right _ h1)
        · exact Or.inr ⟨d, List.mem_append_right _ hd, hxd⟩
      · -- only directories of `order` are indexed, each with its listing, which holds files: `indexDirs` is the fold of
        -- `fun i d => i.update d (L d)` over the run's `okDirs`, from `w.idx`; such a `d` is in the `okDirs` the run started with -
        -- `[]`, the default that `start` leaves, hence `nofun` - or in `order` (`okDirs_sub`)
        exact List.foldlRecOn (motive := IndexWF _) _ _ hi.wf fun j hj d hd =>
          update_wf hj (hop d (((doTransfer_run _ _ order).okDirs_sub d hd).resolve_left nofun).1) (hL d)
  | del x =>
    exact ⟨hi.noInvent, fun y hy => hi.storeEver y (List.mem_filter.mp hy).1, hi.wf⟩
  | extAdd x =>
    refine ⟨grow fun y => List.mem_cons_of_mem _, fun y hy => ?_, hi.wf⟩
    rcases List.mem_cons.mp hy with rfl | h
    · exact List.mem_cons_self
    · exact List.mem_cons_of_mem _ (hi.storeEver y h)

/-- **C12 over histories.** After *any* history of transfers (with any failing uploads, any
    processing order), external deletions and additions, and status queries sharing one index, the
    index holds only identifiers that were in the store at some point of the history or are listed by
    a directory object that was. -/
theorem history_never_invents (hL : ∀ d f, f ∈ L d → isDir f = false) (w : World Oid) (ops : List (HOp Oid))
    (hops : ∀ op ∈ ops, op.ok isDir) (hi : HInv L isDir w) : HInv L isDir (runH L isDir w ops) :=
  List.foldlRecOn (motive := HInv L isDir) ops _ hi fun w hw op hop => stepH_inv L isDir hL w op (hops op hop) hw

/-- a fresh index over any store satisfies the history invariant -/
theorem hinv_init (store : List Oid) : HInv L isDir { store := store, idx := {}, ever := store } :=
  ⟨nofun, fun _ h => h, ⟨nofun, nofun⟩⟩

end DvcData.Transfer

/-
  Basic finite-map vocabulary of the model: association lists with "first binding wins"
  lookup.  Import-free (core only) so that the driver links natively.
-/
namespace DvcData

/-- association list used for every dictionary / store / trie of the model -/
abbrev AList (κ : Type) (ν : Type) := List (κ × ν)

namespace AList
variable {κ ν : Type} [DecidableEq κ]

def lookup (d : AList κ ν) (k : κ) : Option ν :=
  match d with
  | [] => none
  | (k', v) :: r => if k' = k then some v else lookup r k

def contains (d : AList κ ν) (k : κ) : Bool := (lookup d k).isSome

def erase (d : AList κ ν) (k : κ) : AList κ ν := d.filter (fun p => p.1 ≠ k)

/-- Python `d[k] = v`: replaces the value, keeps the position of an existing key,
    appends a new key at the end (insertion order is observable through iteration). -/
def set (d : AList κ ν) (k : κ) (v : ν) : AList κ ν :=
  match d with
  | [] => [(k, v)]
  | (k', v') :: r => if k' = k then (k, v) :: r else (k', v') :: set r k v

def keys (d : AList κ ν) : List κ := d.map (·.1)

/-- well-formed: no key bound twice -/
def WF (d : AList κ ν) : Prop := (keys d).Nodup

instance (d : AList κ ν) : Decidable (WF d) := inferInstanceAs (Decidable (List.Nodup _))

end AList

/-- duplicate-free insertion into a list used as a set -/
def insertSet {α : Type} [DecidableEq α] (s : List α) (x : α) : List α :=
  if x ∈ s then s else s ++ [x]

end DvcData

import DvcData.Model.Conc
import DvcData.Proofs.ConcAbs
import DvcData.Proofs.Crash
/-!
# The concurrent-writers model refines its finite abstraction

`absObj` is what the abstraction sees under one name; `step_abs` says a writer's concrete step acts
on it as `absStep`; `step_frame_objs` / `step_frame_tmps` say it touches nothing else.  What each
filesystem step does to a name is in `Proofs/Crash.lean` (`lookup_probeCreate` … `lookup_rename`).
-/
namespace DvcData.Conc
open DvcData Crash AList

variable (root : Bool) (H : Bytes → Oid)

def absObj (s : S) (oid : Oid) : AObj :=
  (s.objs.lookup oid).map fun o => (decide (H o.data = oid), o.prot)

/-! ### a writer's step only touches its own name and its own temp file -/

/-- the filesystem steps a writer issues: on its own final name and its own temp file, and the rename only
    when the copy loop has written everything -/
inductive Issues (th : Thread) : Step → Prop
  | remove : Issues th (.remove th.oid)
  | protect : Issues th (.protect th.oid)
  | probeCreate : Issues th (.probeCreate th.oid)
  | probeUnlink : Issues th (.probeUnlink th.oid)
  | tmpCreate : Issues th (.tmpCreate th.t)
  | append (c : Bytes) : Issues th (.append th.t c)
  | rename : th.pc = .write → th.chunks[th.k]? = none → Issues th (.rename th.t th.oid)
  | saveRow : Issues th (.saveRow th.oid)

theorem Issues.oid {th : Thread} {st : Step} {k : Oid} (h : Issues th st) (e : oidOf st = some k) : th.oid = k := by
  cases h
  case tmpCreate | append => cases e
  all_goals exact Option.some.inj e

theorem Issues.tmp {th : Thread} {st : Step} {t : Tmp} (h : Issues th st) (e : tmpOf st = some t) : th.t = t := by
  cases h
  case tmpCreate | append | rename => exact Option.some.inj e
  all_goals cases e

theorem step_exec (s : S) (th : Thread) : ∃ pc' k', th.step root H s = (s, { th with pc := pc', k := k' }) ∨
    ∃ st, Issues th st ∧ th.step root H s = (exec s st, { th with pc := pc', k := k' }) := by
  fun_cases Thread.step root H s th
  -- a branch leaves the store alone, or `rfl` names the step it issues and that picks the constructor of `Issues`
  -- (`assumption` supplies the two premises of `rename`)
  all_goals first
    | exact ⟨_, _, Or.inl rfl⟩
    | exact ⟨_, _, Or.inr ⟨_, by constructor <;> assumption, rfl⟩⟩

theorem step_oid (s : S) (th : Thread) : (th.step root H s).2.oid = th.oid ∧ (th.step root H s).2.t = th.t ∧
    (th.step root H s).2.chunks = th.chunks := by
  obtain ⟨_, _, h | ⟨_, _, h⟩⟩ := step_exec root H s th <;> rw [h] <;> exact ⟨rfl, rfl, rfl⟩

theorem step_frame_objs (s : S) (th : Thread) (k : Oid) (hk : th.oid ≠ k) :
    (th.step root H s).1.objs.lookup k = s.objs.lookup k := by
  obtain ⟨_, _, h | ⟨st, hi, h⟩⟩ := step_exec root H s th <;> rw [h]
  exact exec_frame_obj s st k fun e => hk (hi.oid e)

theorem step_frame_tmps (s : S) (th : Thread) (t' : Tmp) (ht : th.t ≠ t') :
    (th.step root H s).1.tmps.lookup t' = s.tmps.lookup t' := by
  obtain ⟨_, _, h | ⟨st, hi, h⟩⟩ := step_exec root H s th <;> rw [h]
  exact exec_frame_tmp s st t' fun e => ht (hi.tmp e)

/-- the temp-file invariant of the stepping writer itself -/
theorem step_own_tmp (s : S) (th : Thread)
    (htmp : th.pc = .write → s.tmps.lookup th.t = some (th.chunks.take th.k).flatten) :
    (th.step root H s).2.pc = .write →
      (th.step root H s).1.tmps.lookup (th.step root H s).2.t =
        some ((th.step root H s).2.chunks.take (th.step root H s).2.k).flatten := by
  /- `fun_cases` numbers the branches of `Thread.step` as they stand in the source: 1-3 `stat`, 4-6 `read`, 7 `discard`,
     8 `vprotect`, 9-11 `probe` (9: refused), 12 `unlink`, 13 `create`, 14-15 `write` (14: a chunk is left, 15: the rename),
     16 `protect`, 17 `save`, 18 `done`, 19-21 `restat`, 22-24 `reread`, 25 `rediscard`, 26 `failed`. -/
  fun_cases Thread.step root H s th
  -- the copy loop is entered from `create` (empty temp, nothing written) and stays in `write` while chunks are left
  case case13 => intro _; simp only [exec, lookup_set_self]; rfl
  case case14 hpc c hc =>
    intro _
    simp only [exec, htmp hpc, lookup_set_self, List.take_add_one, hc, Option.toList_some, List.flatten_append,
      List.flatten_singleton]
  case case18 hpc | case26 hpc => intro hw; cases hpc.symm.trans hw
  all_goals intro hw; cases hw

/-- a writer's step acts on the abstraction of its name as `absStep` -/
theorem step_abs (s : S) (th : Thread) (hwf : H th.chunks.flatten = th.oid)
    (htmp : th.pc = .write → s.tmps.lookup th.t = some (th.chunks.take th.k).flatten) :
    absObj H (th.step root H s).1 th.oid =
      (absStep root (decide (H [] = th.oid)) (th.chunks[th.k]?).isNone (absObj H s th.oid) th.pc).1 ∧
    (th.step root H s).2.pc =
      (absStep root (decide (H [] = th.oid)) (th.chunks[th.k]?).isNone (absObj H s th.oid) th.pc).2 := by
  -- per program counter both sides are a `match` on what is under the name; `lookup_<step>` says what the step issued leaves there
  unfold Thread.step absStep absObj
  cases hpc : th.pc <;> dsimp only
  case stat | restat =>  -- the store is untouched; both sides branch alike: nothing there, a protected object, an unprotected one
    cases hl : s.objs.lookup th.oid with
    | none => simp [hl]
    | some o => obtain ⟨d, p⟩ := o; cases p <;> simp [hl]
  case read | reread =>  -- the store is untouched; both sides branch on `hm`, which is the first component of `absObj`
    cases hl : s.objs.lookup th.oid with
    | none => simp [hl]
    | some o => by_cases hm : H o.data = th.oid <;> simp [hl, hm]
  case discard | rediscard => simp [lookup_remove]  -- nothing is left under the name
  case vprotect | protect =>  -- what is there, if anything, gets its protection bit: an `Option.map` on both sides
    simp only [lookup_protect, if_true]
    cases hl : s.objs.lookup th.oid <;> simp
  case probe =>
    -- refused only for a protected object and `root = false`; otherwise `lookup_probeCreate`: an empty file that keeps the
    -- protection bit of what was there (`protOf`), and whether it matches the name is `decide (H [] = th.oid)`
    cases hl : s.objs.lookup th.oid with
    | none => simp [lookup_probeCreate, hl, protOf]
    | some o =>
      obtain ⟨d, p⟩ := o
      cases p
      · simp [lookup_probeCreate, hl, protOf]  -- unprotected: truncated, whoever asks
      · cases root
        · simp [hl]  -- protected, unprivileged: refused, the store is untouched
        · simp [lookup_probeCreate, hl, protOf]  -- protected, privileged: truncated, still protected
  case unlink => simp [lookup_probeUnlink]  -- nothing is left under the name
  case create => simp [lookup_tmpCreate]  -- a temp file is no final name
  case write =>
    cases hc : th.chunks[th.k]? with
    | some c => simp [Conc.lookup_append]  -- a chunk is left (`last = false`): appending to the temp file touches no final name
    | none =>
      -- nothing is left to write: the temp file holds all the chunks, and those hash to the name
      have hb := htmp hpc
      rw [List.take_of_length_le (List.getElem?_eq_none_iff.mp hc)] at hb
      simp [lookup_rename hb, hwf]
  case save => simp [lookup_saveRow]  -- a row is no object
  case done | failed => simp [hpc]  -- the step returns `th` itself: `hpc` says what its pc is

end DvcData.Conc

import DvcData.Model.Crash
import DvcData.Proofs.AList
/-!
# What a filesystem step does to a name

A step of `Crash.exec` is about one final name and one temp name at most, and leaves every other
name as it was (`exec_frame_obj`, `exec_frame_tmp`); what it does to the final name it is about is
said step by step (`lookup_probeCreate` … `lookup_rename`).  The concurrent writers (Proofs/Conc.lean, C16) rest on
this; C15's own argument about `exec` is `exec_preserves` in Props/C15.lean.
-/
namespace DvcData.Crash
open DvcData AList

/-- the temp file a step writes or, for `rename`, consumes, if any -/
def tmpOf : Step → Option Tmp
  | .tmpCreate t => some t
  | .append t _ => some t
  | .rename t _ => some t
  | _ => none

/-- the final name a step is about, if any -/
def oidOf : Step → Option Oid
  | .probeCreate oid | .probeUnlink oid | .rename _ oid | .protect oid | .saveRow oid | .remove oid => some oid
  | _ => none

/-- steps that do not name temp `t` leave it alone (temp names are unique per writer) -/
theorem exec_frame_tmp (s : S) (st : Step) (t : Tmp) (h : tmpOf st ≠ some t) :
    (exec s st).tmps.lookup t = s.tmps.lookup t := by
  /- the branches of `exec` in the order of its definition: 1 `probeCreate`, 2 `probeUnlink`, 3 `tmpCreate`, 4-5 `append`,
     6-7 `rename`, 8-9 `protect`, 10-11 `saveRow`, 12 `remove`; 5, 7, 9, 11 find no temp file or object and change nothing -/
  fun_cases exec s st with
  | case3 | case4 => exact lookup_set_ne fun e => h (congrArg some e)  -- `tmpCreate`, `append` set their temp file
  | case6 => exact lookup_erase_ne fun e => h (congrArg some e)  -- `rename` removes its temp file
  | case1 | case2 | case5 | case7 | case8 | case9 | case10 | case11 | case12 => rfl

theorem exec_frame_obj (s : S) (st : Step) (k : Oid) (h : oidOf st ≠ some k) :
    (exec s st).objs.lookup k = s.objs.lookup k := by
  fun_cases exec s st with
  | case1 | case6 | case8 => exact lookup_set_ne fun e => h (congrArg some e)  -- `probeCreate`, `rename`, `protect` set their name
  | case2 | case12 => exact lookup_erase_ne fun e => h (congrArg some e)  -- `probeUnlink`, `remove` erase it
  | case3 | case4 | case5 | case7 | case9 | case10 | case11 => rfl

end DvcData.Crash

namespace DvcData.Conc
open DvcData Crash AList

/-! ### what each filesystem step does to the lookup of a name; the lemmas are named after the `Step` constructors
     (`lookup_append` is about the step `append`, not `AList.lookup_append`) -/

theorem lookup_probeCreate (s : S) (oid k : Oid) :
    (exec s (.probeCreate oid)).objs.lookup k =
      if oid = k then some { data := [], prot := protOf (s.objs.lookup oid) }
      else s.objs.lookup k := by
  simp only [exec, AList.lookup_set]

theorem lookup_probeUnlink (s : S) (oid k : Oid) :
    (exec s (.probeUnlink oid)).objs.lookup k = if oid = k then none else s.objs.lookup k := by
  simp only [exec, AList.lookup_erase]

theorem lookup_remove (s : S) (oid k : Oid) :
    (exec s (.remove oid)).objs.lookup k = if oid = k then none else s.objs.lookup k := by
  simp only [exec, AList.lookup_erase]

theorem lookup_protect (s : S) (oid k : Oid) :
    (exec s (.protect oid)).objs.lookup k =
      if oid = k then (s.objs.lookup oid).map fun o => { o with prot := true } else s.objs.lookup k := by
  simp only [exec]
  cases h : s.objs.lookup oid with
  | none =>
    by_cases e : oid = k
    · rw [if_pos e, ← e, h]; rfl
    · rw [if_neg e]
  | some o => simp only [AList.lookup_set, Option.map_some]

theorem lookup_saveRow (s : S) (oid k : Oid) : (exec s (.saveRow oid)).objs.lookup k = s.objs.lookup k := by
  simp only [exec]; split <;> rfl

theorem lookup_tmpCreate (s : S) (t : Tmp) (k : Oid) : (exec s (.tmpCreate t)).objs.lookup k = s.objs.lookup k := rfl

theorem lookup_append (s : S) (t : Tmp) (c : Bytes) (k : Oid) : (exec s (.append t c)).objs.lookup k = s.objs.lookup k := by
  simp only [exec]; split <;> rfl

theorem lookup_rename {s : S} {t : Tmp} {oid k : Oid} {b : Bytes} (hb : s.tmps.lookup t = some b) :
    (exec s (.rename t oid)).objs.lookup k = if oid = k then some { data := b, prot := false } else s.objs.lookup k := by
  simp only [exec, hb, AList.lookup_set]

end DvcData.Conc

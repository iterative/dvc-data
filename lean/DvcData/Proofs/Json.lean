import DvcData.Model.Json
namespace DvcData.Json
open List

/-!
The readers of `Model/Json.lean` invert its writers. For strings everything rests on one fact per character,
`unescOne_escChar`; for numbers on `digitsVal_renderNat`.

### string escaping round trip
-/

theorem hexVal_hexDigit (d : Nat) (h : d < 16) : hexVal (hexDigit d) = some d := by
  have : ∀ d : Fin 16, hexVal (hexDigit d.val) = some d.val := by decide
  exact this ⟨d, h⟩

theorem horner16 {n q1 q2 q3 d0 d1 d2 : Nat} (a : 16 * q1 + d0 = n) (b : 16 * q2 + d1 = q1) (c : 16 * q3 + d2 = q2) :
    q3 * 4096 + d2 * 256 + d1 * 16 + d0 = n := by
  subst a b c; simp +arith

theorem parseHex4_hex4 (n : Nat) (h : n < 65536) :
    parseHex4 (hexDigit (n / 4096 % 16)) (hexDigit (n / 256 % 16)) (hexDigit (n / 16 % 16)) (hexDigit (n % 16)) =
      some n := by
  have hd (m : Nat) : m % 16 < 16 := Nat.mod_lt _ (by decide)
  simp only [parseHex4, hexVal_hexDigit _ (hd _), Option.bind_eq_bind, Option.bind_some, Option.pure_def,
    Option.some.injEq]
  -- the digits are the remainders of three successive divisions by 16; the last quotient is a digit itself
  rw [Nat.mod_eq_of_lt (Nat.div_lt_of_lt_mul h : n / 4096 < 16)]
  have b := Nat.div_add_mod (n / 16) 16
  have c := Nat.div_add_mod (n / 256) 16
  rw [Nat.div_div_eq_div_mul] at b c
  exact horner16 (Nat.div_add_mod n 16) b c

theorem unescOne_uEsc_bmp (n : Nat) (h : n < 65536) (hs : ¬ (55296 ≤ n ∧ n < 56320)) (r : List Char) :
    unescOne (uEsc n ++ r) = some (Char.ofNat n, r) := by
  -- `unescOne.eq_8` is the clause for `\uXXXX`
  simp only [uEsc, hex4, cons_append, nil_append, unescOne.eq_8, parseHex4_hex4 n h, hs, if_false]

/-- a surrogate pair, by its two ten-bit halves -/
theorem unescOne_uEsc_pair (hi lo : Nat) (hh : hi < 1024) (hl : lo < 1024) (r : List Char) :
    unescOne (uEsc (55296 + hi) ++ (uEsc (56320 + lo) ++ r)) = some (Char.ofNat (65536 + hi * 1024 + lo), r) := by
  have hv : 55296 ≤ 55296 + hi ∧ 55296 + hi < 56320 := by omega
  have hw : 56320 ≤ 56320 + lo ∧ 56320 + lo < 57344 := by omega
  -- the `\uXXXX` clause again, whose inner `match` reads the second escape
  simp only [uEsc, hex4, cons_append, nil_append, unescOne.eq_8, parseHex4_hex4 _ (show 55296 + hi < 65536 by omega),
    parseHex4_hex4 _ (show 56320 + lo < 65536 by omega), hv, hw, and_self, if_true, Nat.add_sub_cancel_left]

theorem char_valid (c : Char) : c.toNat < 55296 ∨ (57343 < c.toNat ∧ c.toNat < 1114112) := by
  have := c.valid
  simp only [UInt32.isValidChar, Nat.isValidChar, Char.toNat] at *
  omega

theorem unescOne_plain (c : Char) (r : List Char) (h1 : c ≠ '"') (h2 : c ≠ '\\') :
    unescOne (c :: r) = some (c, r) := by
  -- the last clause of `unescOne` for a non-empty text; every earlier one starts with a backslash or a quote
  rw [unescOne.eq_11] <;> intros <;> contradiction

/-- decoding inverts the escaping of one character, clause by clause of `escChar` -/
theorem unescOne_escChar (c : Char) (r : List Char) : unescOne (escChar c ++ r) = some (c, r) := by
  -- the seven two-character escapes: once `c` is known both sides are closed terms
  by_cases h1 : c = '"'
  · subst h1; rfl
  by_cases h2 : c = '\\'
  · subst h2; rfl
  by_cases h3 : c = '\n'
  · subst h3; rfl
  by_cases h4 : c = '\r'
  · subst h4; rfl
  by_cases h5 : c = '\t'
  · subst h5; rfl
  by_cases h6 : c.toNat = 8
  · rw [← Char.ofNat_toNat c, h6]; rfl
  by_cases h7 : c.toNat = 12
  · rw [← Char.ofNat_toNat c, h7]; rfl
  rw [escChar, if_neg h1, if_neg h2, if_neg h3, if_neg h4, if_neg h5, if_neg h6, if_neg h7]
  by_cases h8 : 32 ≤ c.toNat ∧ c.toNat ≤ 126
  · rw [if_pos h8]; exact unescOne_plain c r h1 h2
  rw [if_neg h8]
  have hv := char_valid c
  by_cases h : c.toNat < 65536
  · rw [if_pos h, unescOne_uEsc_bmp c.toNat h (by omega), Char.ofNat_toNat]
  · -- `char_valid` bounds `c.toNat - 65536` below 2^20, so its upper half is below 1024
    -- what `if_neg h` leaves is the last clause of `escChar` under its binding `v := c.toNat - 65536`:
    -- `uEsc (55296 + v / 1024) ++ uEsc (56320 + v % 1024)`; the rewrites match it up to that binding
    rw [if_neg h, append_assoc, unescOne_uEsc_pair _ _ (by omega) (Nat.mod_lt _ (by decide)), Nat.add_assoc,
      Nat.div_add_mod', Nat.add_sub_cancel' (Nat.le_of_not_lt h), Char.ofNat_toNat]

theorem esc_cons (c : Char) (s : List Char) : esc (c :: s) = escChar c ++ esc s := flatMap_cons

/-- one more decoded character: `unescOne` fails on a closing quote, so where it succeeds `unescFuel` takes its
    last clause -/
theorem unescFuel_step (n : Nat) {l r s r' : List Char} {c : Char} (h : unescOne l = some (c, r))
    (h' : unescFuel n r = some (s, r')) : unescFuel (n + 1) l = some (c :: s, r') := by
  -- `unescFuel.eq_3`: the clause for a text that does not start with a quote; `unescOne.eq_10`: `unescOne ('"' :: _) = none`
  rw [unescFuel.eq_3 l n (fun r' e => by rw [e, unescOne.eq_10] at h; cases h), h]
  simp only [h']

theorem unesc_esc (s rest : List Char) (n : Nat) (hn : s.length < n) :
    unescFuel n (esc s ++ '"' :: rest) = some (s, rest) := by
  induction s generalizing n with
  | nil => match n, hn with | _ + 1, _ => rfl
  | cons c s ih =>
    match n, hn with
    | n + 1, hn =>
      rw [esc_cons, append_assoc]
      exact unescFuel_step n (unescOne_escChar c _) (ih n (Nat.lt_of_succ_lt_succ hn))

theorem esc_injective (s₁ s₂ : List Char) (h : esc s₁ = esc s₂) : s₁ = s₂ := by
  -- decode both with fuel enough for either
  have a := unesc_esc s₁ [] (s₁.length + s₂.length + 1) (by omega)
  rw [h, unesc_esc s₂ [] _ (by omega)] at a
  exact (Prod.mk.inj (Option.some.inj a)).1.symm

theorem parseStrLit_render (s rest : List Char) (f : Nat) (hf : s.length < f) :
    parseStrLit f (renderStr s ++ rest) = some (s, rest) := by
  simp only [renderStr, cons_append, append_assoc, parseStrLit]
  exact unesc_esc s rest f hf

theorem length_le_esc (s : List Char) : s.length ≤ (esc s).length := by
  induction s with
  | nil => exact Nat.le_refl 0
  | cons c r ih =>
    -- no escape is empty: decoding it succeeds, and `unescOne []` does not
    have : escChar c ≠ [] := fun e => by
      have := unescOne_escChar c []
      rw [e] at this; cases this
    rw [esc_cons, length_append, length_cons]
    have := length_pos_iff.mpr this
    omega

/-! ### numbers -/

theorem isDigit_digitChar (d : Nat) (h : d < 10) : isDigit (digitChar d) = true ∧ (digitChar d).toNat - 48 = d := by
  have : ∀ d : Fin 10, isDigit (digitChar d.val) = true ∧ (digitChar d.val).toNat - 48 = d.val := by decide
  exact this ⟨d, h⟩

theorem renderNat_digits (n : Nat) : ∀ c ∈ renderNat n, isDigit c = true := by
  induction n using renderNat.induct with
  | case1 n h => rw [renderNat, if_pos h]; simpa using (isDigit_digitChar n h).1
  | case2 n h ih =>
    rw [renderNat, if_neg h]
    simpa [or_imp, forall_and] using ⟨ih, (isDigit_digitChar _ (Nat.mod_lt _ (by decide))).1⟩

theorem renderNat_ne_nil (n : Nat) : renderNat n ≠ [] := by
  rw [renderNat]; split <;> simp

theorem digitsVal_append (l : List Char) (c : Char) :
    digitsVal (l ++ [c]) = digitsVal l * 10 + (c.toNat - 48) := by
  simp [digitsVal, foldl_append]

theorem digitsVal_renderNat (n : Nat) : digitsVal (renderNat n) = n := by
  induction n using renderNat.induct with
  | case1 n h => simp [renderNat, h, digitsVal, (isDigit_digitChar n h).2]
  | case2 n h ih =>
    rw [renderNat, if_neg h, digitsVal_append, ih, (isDigit_digitChar _ (Nat.mod_lt _ (by decide))).2]
    omega

/-- the next character is not a digit (true at the end of the text and in front of `, `, `}` and `]`) -/
def NoDigitHead (rest : List Char) : Prop := rest.takeWhile isDigit = []

theorem noDigitHead_cons {c : Char} (hc : isDigit c = false) (t : List Char) : NoDigitHead (c :: t) :=
  takeWhile_cons_of_neg (by simp [hc])

theorem parseNat_render (n : Nat) (rest : List Char) (hr : NoDigitHead rest) :
    parseNat (renderNat n ++ rest) = some (n, rest) := by
  have hd : rest.dropWhile isDigit = rest := by
    have := takeWhile_append_dropWhile (p := isDigit) (l := rest)
    rwa [hr, nil_append] at this
  unfold parseNat
  rw [takeWhile_append_of_pos (renderNat_digits n), dropWhile_append_of_pos (renderNat_digits n), hr, hd, append_nil]
  simp [renderNat_ne_nil, digitsVal_renderNat]

end DvcData.Json

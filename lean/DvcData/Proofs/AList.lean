import DvcData.Model.Basic
/-!
Association lists as finite maps, and lists as finite sets: what `lookup` answers after each way the model
builds a dictionary (`set`, `erase`, `++`, `filter`, `map`, a fold of `set`), which of them keep `WF`, and membership
in `insertSet` folds. A few facts about plain lists that several files need come first.
-/
namespace DvcData

theorem nodup_snoc {α : Type} {s : List α} {x : α} (h : s.Nodup) (hx : x ∉ s) : (s ++ [x]).Nodup := by
  refine List.nodup_append.mpr ⟨h, by simp, fun a ha b hb => ?_⟩
  rw [List.mem_singleton.mp hb]
  exact fun e => hx (e ▸ ha)

theorem inj_on_of_nodup_map {α β : Type} {f : α → β} {l : List α} (h : (l.map f).Nodup) :
    ∀ ⦃x⦄, x ∈ l → ∀ ⦃y⦄, y ∈ l → f x = f y → x = y :=
  have hp := List.pairwise_map.mp h
  -- a relation that holds on the diagonal and pairwise along `l` in both directions holds between any two members
  List.Pairwise.forall_of_forall_of_flip (fun _ _ _ => rfl) (hp.imp fun hne e => absurd e hne)
    (hp.imp fun hne e => absurd e.symm hne)

/-- an invariant of a successful `foldlM` in `Option` (core's `List.foldlRecOn` covers `foldl` only) -/
theorem foldlM_some_rec {α β : Type} {motive : β → Prop} {f : β → α → Option β} {l : List α} {b b' : β}
    (h : l.foldlM f b = some b') (hb : motive b)
    (hs : ∀ b a b', a ∈ l → f b a = some b' → motive b → motive b') : motive b' := by
  induction l generalizing b with
  | nil => cases h; exact hb
  | cons a l ih =>
    rw [List.foldlM_cons] at h
    cases hf : f b a with
    | none => rw [hf] at h; cases h
    | some b1 =>
      rw [hf] at h
      exact ih h (hs b a b1 (by simp) hf hb) fun b a b' ha => hs b a b' (List.mem_cons_of_mem _ ha)

namespace AList
variable {κ ν : Type} [DecidableEq κ]

@[simp] theorem lookup_nil (k : κ) : lookup ([] : AList κ ν) k = none := rfl

theorem lookup_cons (k' : κ) (v : ν) (r : AList κ ν) (k : κ) :
    lookup ((k', v) :: r) k = if k' = k then some v else lookup r k := rfl

theorem lookup_set (d : AList κ ν) (k : κ) (v : ν) (k2 : κ) :
    lookup (set d k v) k2 = if k = k2 then some v else lookup d k2 := by
  induction d with
  | nil => simp [set, lookup_cons]
  | cons p r ih =>
    obtain ⟨k', v'⟩ := p
    simp only [set]
    by_cases h : k' = k
    · subst h; simp only [if_true, lookup_cons]
      by_cases h2 : k' = k2 <;> simp [h2]
    · simp only [h, if_false, lookup_cons, ih]
      by_cases h2 : k' = k2
      · subst h2
        have : ¬ k = k' := fun e => h e.symm
        simp [this]
      · simp [h2]

theorem lookup_erase (d : AList κ ν) (k k2 : κ) :
    lookup (erase d k) k2 = if k = k2 then none else lookup d k2 := by
  induction d with
  | nil => simp [erase]
  | cons p r ih =>
    obtain ⟨k', v'⟩ := p
    unfold erase at ih ⊢
    simp only [List.filter]
    by_cases h : k' = k
    · subst h
      simp only [ne_eq, not_true_eq_false, decide_false, ih, lookup_cons]
      by_cases h2 : k' = k2 <;> simp [h2]
    · simp only [ne_eq, h, not_false_eq_true, decide_true, lookup_cons, ih]
      by_cases h2 : k' = k2
      · subst h2
        have : ¬ k = k' := fun e => h e.symm
        simp [this]
      · simp [h2]

theorem lookup_isSome_iff_mem_keys (d : AList κ ν) (k : κ) :
    (lookup d k).isSome = true ↔ k ∈ keys d := by
  induction d with
  | nil => simp [keys]
  | cons p r ih =>
    obtain ⟨k', v'⟩ := p
    simp only [lookup_cons, keys, List.map_cons, List.mem_cons]
    by_cases h : k' = k
    · subst h; simp
    · simp only [h, if_false]
      rw [ih]
      constructor
      · intro hm; exact Or.inr hm
      · intro hm
        rcases hm with e | hm
        · exact absurd e.symm h
        · exact hm

theorem lookup_eq_none_iff {d : AList κ ν} {k : κ} : lookup d k = none ↔ k ∉ keys d := by
  have := lookup_isSome_iff_mem_keys d k
  cases h : lookup d k <;> simp_all

theorem mem_of_lookup {d : AList κ ν} {k : κ} {v : ν} (h : lookup d k = some v) : (k, v) ∈ d := by
  induction d with
  | nil => simp at h
  | cons p r ih =>
    obtain ⟨k', v'⟩ := p
    rw [lookup_cons] at h
    by_cases e : k' = k
    · simp [e] at h; subst e; subst h; simp
    · simp [e] at h; exact List.mem_cons_of_mem _ (ih h)

theorem lookup_of_mem {d : AList κ ν} (hwf : WF d) {k : κ} {v : ν} (h : (k, v) ∈ d) :
    lookup d k = some v := by
  induction d with
  | nil => simp at h
  | cons p r ih =>
    obtain ⟨k', v'⟩ := p
    unfold WF keys at hwf ih
    simp only [List.map_cons, List.nodup_cons] at hwf
    rw [lookup_cons]
    rcases List.mem_cons.mp h with e | hm
    · cases e; simp
    · have : k' ≠ k := by
        intro e; subst e
        exact hwf.1 (List.mem_map.mpr ⟨(k', v), hm, rfl⟩)
      simp [this]; exact ih hwf.2 hm

theorem lookup_perm {d d' : AList κ ν} (hp : d.Perm d') (hwf : WF d) (k : κ) : lookup d k = lookup d' k := by
  cases h : lookup d' k with
  | none =>
    rw [lookup_eq_none_iff] at h ⊢
    exact fun hk => h ((hp.map _).mem_iff.mp hk)
  | some v => exact lookup_of_mem hwf (hp.mem_iff.mpr (mem_of_lookup h))

omit [DecidableEq κ] in
theorem nodup_of_wf {d : AList κ ν} (h : WF d) : d.Nodup :=
  List.Pairwise.of_map (fun e : κ × ν => e.1) (fun _ _ hab e => hab (e ▸ rfl)) h

theorem perm_of_lookup_eq {a b : AList κ ν} (ha : WF a) (hb : WF b) (h : ∀ k, lookup a k = lookup b k) : a.Perm b := by
  have sub : ∀ {a b : AList κ ν}, WF a → (∀ k, lookup a k = lookup b k) → ∀ e ∈ a, e ∈ b :=
    fun ha h e he => mem_of_lookup (h e.1 ▸ lookup_of_mem ha he)
  exact (List.perm_ext_iff_of_nodup (nodup_of_wf ha) (nodup_of_wf hb)).mpr fun e =>
    ⟨sub ha h e, sub hb (fun k => (h k).symm) e⟩

theorem contains_eq_true_iff {d : AList κ ν} {k : κ} : contains d k = true ↔ ∃ v, lookup d k = some v := by
  unfold contains
  cases lookup d k <;> simp

theorem contains_eq_false_iff {d : AList κ ν} {k : κ} : contains d k = false ↔ lookup d k = none := by
  unfold contains
  cases lookup d k <;> simp

theorem lookup_set_self (d : AList κ ν) (k : κ) (v : ν) : lookup (set d k v) k = some v := by
  rw [lookup_set, if_pos rfl]

theorem lookup_set_ne {d : AList κ ν} {k k2 : κ} {v : ν} (h : k ≠ k2) : lookup (set d k v) k2 = lookup d k2 := by
  rw [lookup_set, if_neg h]

theorem lookup_erase_self (d : AList κ ν) (k : κ) : lookup (erase d k) k = none := by
  rw [lookup_erase, if_pos rfl]

theorem lookup_erase_ne {d : AList κ ν} {k k2 : κ} (h : k ≠ k2) : lookup (erase d k) k2 = lookup d k2 := by
  rw [lookup_erase, if_neg h]

theorem mem_of_mem_erase {d : AList κ ν} {k : κ} {e : κ × ν} (h : e ∈ erase d k) : e ∈ d :=
  (List.mem_filter.mp h).1

theorem forall_lookup_set {P : κ → ν → Prop} {d : AList κ ν} {k : κ} {v : ν}
    (h : ∀ k' v', lookup d k' = some v' → P k' v') (hv : P k v) :
    ∀ k' v', lookup (set d k v) k' = some v' → P k' v' := by
  intro k' v' hl
  rw [lookup_set] at hl
  split at hl
  · next e => cases hl; exact e ▸ hv
  · exact h k' v' hl

theorem forall_lookup_erase {P : κ → ν → Prop} {d : AList κ ν} (k : κ)
    (h : ∀ k' v', lookup d k' = some v' → P k' v') :
    ∀ k' v', lookup (erase d k) k' = some v' → P k' v' := by
  intro k' v' hl
  rw [lookup_erase] at hl
  split at hl
  · cases hl
  · exact h k' v' hl

theorem lookup_append (a b : AList κ ν) (k : κ) : lookup (a ++ b) k = (lookup a k).or (lookup b k) := by
  induction a with
  | nil => rfl
  | cons p r ih =>
    obtain ⟨k', v'⟩ := p
    simp only [List.cons_append, lookup_cons, ih]
    split <;> rfl

theorem lookup_filter_key (d : AList κ ν) (P : κ → Bool) (k : κ) :
    lookup (d.filter fun e => P e.1) k = if P k then lookup d k else none := by
  induction d with
  | nil => simp
  | cons p r ih =>
    obtain ⟨k', v⟩ := p
    by_cases e : k' = k
    · subst e; cases hp : P k' <;> simp [hp, lookup_cons, ih]
    · cases hp : P k' <;> simp [hp, lookup_cons, ih, e]

theorem contains_append (a b : AList κ ν) (k : κ) : (a ++ b).contains k = (a.contains k || b.contains k) := by
  unfold contains; rw [lookup_append]; cases lookup a k <;> rfl

theorem lookup_map {μ : Type} (f : κ → ν → μ) (d : AList κ ν) (k : κ) :
    lookup (d.map fun e => (e.1, f e.1 e.2)) k = (lookup d k).map (f k) := by
  induction d with
  | nil => rfl
  | cons p r ih =>
    obtain ⟨k', v⟩ := p
    simp only [List.map_cons, lookup_cons, ih]
    split
    · next e => subst e; rfl
    · rfl

theorem keys_set (d : AList κ ν) (k : κ) (v : ν) :
    keys (set d k v) = if k ∈ keys d then keys d else keys d ++ [k] := by
  induction d with
  | nil => rfl
  | cons p r ih =>
    obtain ⟨k', v'⟩ := p
    unfold keys at ih ⊢
    simp only [set]
    by_cases h : k' = k
    · subst h; simp
    · simp only [h, if_false, List.map_cons, List.mem_cons, Ne.symm h, false_or, ih]
      split <;> rfl

omit [DecidableEq κ] in
theorem wf_nil : WF ([] : AList κ ν) := List.nodup_nil

omit [DecidableEq κ] in
theorem wf_of_sublist {d d' : AList κ ν} (h : d'.Sublist d) (hd : WF d) : WF d' :=
  List.Sublist.nodup (h.map Prod.fst) hd

theorem wf_erase (d : AList κ ν) (k : κ) (h : WF d) : WF (erase d k) :=
  wf_of_sublist List.filter_sublist h

theorem wf_set (d : AList κ ν) (k : κ) (v : ν) (h : WF d) : WF (set d k v) := by
  unfold WF at *
  rw [keys_set]
  split
  · exact h
  · next hk => exact nodup_snoc h hk

/-- folding `set` over a list of bindings: the last write wins -/
theorem lookup_foldl_set (es d : AList κ ν) (k : κ) :
    lookup (es.foldl (fun i c => i.set c.1 c.2) d) k = (lookup es.reverse k).or (lookup d k) := by
  induction es generalizing d with
  | nil => rfl
  | cons c r ih =>
    rw [List.foldl_cons, ih, lookup_set, List.reverse_cons, lookup_append, Option.or_assoc]
    rw [lookup_cons]  -- on `lookup [c] k`: `c` unifies with the pair of the lemma by eta
    split <;> rfl

theorem wf_foldl_set (es d : AList κ ν) (h : WF d) : WF (es.foldl (fun i c => i.set c.1 c.2) d) :=
  List.foldlRecOn es _ h fun i hi c _ => wf_set i c.1 c.2 hi

end AList

variable {α : Type} [DecidableEq α]

theorem mem_insertSet {s : List α} {x y : α} : y ∈ insertSet s x ↔ y ∈ s ∨ y = x := by
  unfold insertSet
  split
  · next h => exact ⟨Or.inl, fun h' => h'.elim id (· ▸ h)⟩
  · simp

theorem mem_foldl_insertSet {l : List α} {acc : List α} {x : α} :
    x ∈ l.foldl insertSet acc ↔ x ∈ acc ∨ x ∈ l := by
  induction l generalizing acc with
  | nil => simp
  | cons a r ih => rw [List.foldl_cons, ih, mem_insertSet, List.mem_cons, or_assoc]

theorem nodup_insertSet (s : List α) (x : α) (h : s.Nodup) : (insertSet s x).Nodup := by
  unfold insertSet
  split
  · exact h
  · next hx => exact nodup_snoc h hx

theorem nodup_foldl_insertSet (l : List α) (acc : List α) (h : acc.Nodup) : (l.foldl insertSet acc).Nodup := by
  induction l generalizing acc with
  | nil => exact h
  | cons a r ih => exact ih _ (nodup_insertSet acc a h)

end DvcData

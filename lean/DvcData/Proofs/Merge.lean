import DvcData.Model.Merge
import DvcData.Proofs.AList
/-!
`dictdiffer.diff` and `patch` on flat dictionaries, key by key: `ddiff a b` holds a record for `k` exactly when
`a` and `b` bind `k` differently, that record sets `k` to `b`'s binding (`recAt`, `mem_ddiff`), and a patch whose
records at `k` all say `v` leaves `k` bound to `v` (`lookup_patch`).
-/
namespace DvcData.Merge
open DvcData AList
variable {κ ν : Type} [DecidableEq κ] [DecidableEq ν]

omit [DecidableEq ν] in
theorem lookup_applyRec {d d' : AList κ ν} {r : Rec κ ν} (h : applyRec d r = some d') (k : κ) :
    d'.lookup k = if r.key = k then r.value else d.lookup k := by
  cases r with
  | add k' v => cases h; exact lookup_set d k' v k
  | change k' v => cases h; exact lookup_set d k' v k
  | remove k' =>
    simp only [applyRec] at h
    split at h
    · cases h; exact lookup_erase d k' k
    · cases h

omit [DecidableEq ν] in
/-- If every record of `rs` at `k` sets `k` to `v`, then `k` is bound to `v` after the patch as soon as it was
    before or some record touches it. No uniqueness of the records per key is needed; with `v := d.lookup k` and no
    record at `k` this says that the patch leaves `k` alone. -/
theorem lookup_patch (k : κ) (v : Option ν) {rs : List (Rec κ ν)} {d d' : AList κ ν}
    (h : patch rs d = some d') (hv : ∀ r ∈ rs, r.key = k → r.value = v)
    (hk : d.lookup k = v ∨ ∃ r ∈ rs, r.key = k) : d'.lookup k = v := by
  fun_induction patch rs d with
  | case1 d => cases h; exact hk.resolve_right (by simp)
  | case2 d r rest h1 => cases h
  | case3 d r rest d1 h1 ih =>
    refine ih h (fun r' hr' => hv r' (List.mem_cons_of_mem _ hr')) ?_
    rw [lookup_applyRec h1 k]
    by_cases e : r.key = k
    · left; rw [if_pos e]; exact hv r (List.mem_cons_self ..) e
    · rw [if_neg e]
      rcases hk with hk | ⟨r', hr', e'⟩
      · exact Or.inl hk
      · rcases List.mem_cons.mp hr' with rfl | hr'
        · exact absurd e' e
        · exact Or.inr ⟨r', hr', e'⟩

omit [DecidableEq ν] in
theorem patch_append (r1 r2 : List (Rec κ ν)) (d : AList κ ν) :
    patch (r1 ++ r2) d = (patch r1 d).bind (patch r2) := by
  induction r1 generalizing d with
  | nil => rfl
  | cons r rest ih =>
    simp only [List.cons_append, patch]
    split
    · rfl
    · exact ih _

/-! ### specification of `ddiff` -/

/-- the record `dictdiffer.diff` emits for key `k`, from the key's binding on either side -/
def recAt (k : κ) : Option ν → Option ν → Option (Rec κ ν)
  | none, some vb => some (.add k vb)
  | some _, none => some (.remove k)
  | some va, some vb => if va = vb then none else some (.change k vb)
  | none, none => none

omit [DecidableEq κ] in
theorem recAt_eq_some {k : κ} {x y : Option ν} {r : Rec κ ν} (h : recAt k x y = some r) :
    r.key = k ∧ x ≠ y ∧ r.value = y ∧ (r.kind = .add ↔ x = none) ∧ (r.kind = .remove ↔ y = none) := by
  revert h
  fun_cases recAt k x y <;> intro h <;> cases h
  · exact ⟨rfl, nofun, rfl, ⟨fun _ => rfl, fun _ => rfl⟩, ⟨nofun, nofun⟩⟩
  · exact ⟨rfl, nofun, rfl, ⟨nofun, nofun⟩, ⟨fun _ => rfl, fun _ => rfl⟩⟩
  · next hne => exact ⟨rfl, fun e => hne (Option.some.inj e), rfl, ⟨nofun, nofun⟩, ⟨nofun, nofun⟩⟩

omit [DecidableEq κ] in
theorem recAt_isSome {k : κ} {x y : Option ν} (h : x ≠ y) : ∃ r, recAt k x y = some r := by
  cases x <;> cases y
  · exact absurd rfl h
  · exact ⟨_, rfl⟩
  · exact ⟨_, rfl⟩
  · exact ⟨_, if_neg fun e => h (congrArg some e)⟩

/-- `ddiff` is `recAt` key by key. Well-formedness makes a pair of the list the key's binding; each of the three
    passes of `ddiff` is one row (or, for `change`, one row minus the equal values) of `recAt`'s table. -/
theorem mem_ddiff {a b : AList κ ν} (hwa : WF a) (hwb : WF b) (r : Rec κ ν) :
    r ∈ ddiff a b ↔ ∃ k, recAt k (a.lookup k) (b.lookup k) = some r := by
  unfold ddiff
  simp only [List.mem_append, List.mem_filterMap]
  constructor
  · rintro ((⟨⟨k, va⟩, hp, h⟩ | ⟨⟨k, vb⟩, hp, h⟩) | ⟨⟨k, va⟩, hp, h⟩) <;> refine ⟨k, ?_⟩
    · rw [lookup_of_mem hwa hp]
      split at h
      · next vb hb => rw [hb]; exact h
      · cases h
    · rw [lookup_of_mem hwb hp]
      split at h
      · cases h
      · next hc => rw [contains_eq_false_iff.mp (by simpa using hc)]; exact h
    · rw [lookup_of_mem hwa hp]
      split at h
      · cases h
      · next hc => rw [contains_eq_false_iff.mp (by simpa using hc)]; exact h
  · rintro ⟨k, h⟩
    cases ha : a.lookup k <;> cases hb : b.lookup k <;> rw [ha, hb] at h
    · cases h
    · exact Or.inl (Or.inr ⟨_, mem_of_lookup hb, by simpa [contains, ha, recAt] using h⟩)
    · exact Or.inr ⟨_, mem_of_lookup ha, by simpa [contains, hb, recAt] using h⟩
    · exact Or.inl (Or.inl ⟨_, mem_of_lookup ha, by simpa [hb, recAt] using h⟩)

/-- every record of `ddiff a b` touches a key on which `a` and `b` differ and sets it to `b`'s value; its kind is
    determined by presence on both sides -/
theorem ddiff_sound {a b : AList κ ν} (hwa : WF a) (hwb : WF b) {r : Rec κ ν} (hr : r ∈ ddiff a b) :
    a.lookup r.key ≠ b.lookup r.key ∧ r.value = b.lookup r.key ∧
      (r.kind = .add ↔ a.lookup r.key = none) ∧ (r.kind = .remove ↔ b.lookup r.key = none) := by
  obtain ⟨k, h⟩ := (mem_ddiff hwa hwb r).mp hr
  obtain ⟨rfl, h⟩ := recAt_eq_some h
  exact h

theorem ddiff_complete {a b : AList κ ν} (hwa : WF a) (hwb : WF b) {k : κ}
    (h : a.lookup k ≠ b.lookup k) : ∃ r ∈ ddiff a b, r.key = k := by
  obtain ⟨r, hr⟩ := recAt_isSome (k := k) h
  exact ⟨r, (mem_ddiff hwa hwb r).mpr ⟨k, hr⟩, (recAt_eq_some hr).1⟩

/-- pointwise semantics of patching with a dictdiffer diff -/
theorem patch_ddiff {a b d d' : AList κ ν} (hwa : WF a) (hwb : WF b)
    (h : patch (ddiff a b) d = some d') (k : κ) :
    d'.lookup k = if a.lookup k = b.lookup k then d.lookup k else b.lookup k := by
  split
  · next e =>
    refine lookup_patch k _ h (fun r hr hk => ?_) (Or.inl rfl)
    exact absurd (hk ▸ e) (ddiff_sound hwa hwb hr).1
  · next e =>
    refine lookup_patch k _ h (fun r hr hk => ?_) (Or.inr (ddiff_complete hwa hwb e))
    rw [(ddiff_sound hwa hwb hr).2.1, hk]

theorem patch_ddiff_self {a b d' : AList κ ν} (hwa : WF a) (hwb : WF b)
    (h : patch (ddiff a b) a = some d') (k : κ) : d'.lookup k = b.lookup k := by
  rw [patch_ddiff hwa hwb h k]
  split
  · next e => exact e
  · rfl

theorem ddiff_isEmpty {a b : AList κ ν} (hwa : WF a) (hwb : WF b) (h : (ddiff a b).isEmpty = true)
    (k : κ) : a.lookup k = b.lookup k := by
  refine Decidable.byContradiction fun e => ?_
  obtain ⟨r, hr, _⟩ := ddiff_complete hwa hwb e
  rw [List.isEmpty_iff.mp h] at hr
  cases hr

theorem dictEq_lookup {x y : AList κ ν} (h : dictEq x y = true) (k : κ) : x.lookup k = y.lookup k := by
  unfold dictEq at h
  simp only [Bool.and_eq_true, List.all_eq_true, beq_iff_eq] at h
  by_cases hx : k ∈ keys x
  · exact h.1 k hx
  · by_cases hy : k ∈ keys y
    · exact h.2 k hy
    · rw [lookup_eq_none_iff.mpr hx, lookup_eq_none_iff.mpr hy]

end DvcData.Merge

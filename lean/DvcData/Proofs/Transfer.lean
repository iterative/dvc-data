import DvcData.Model.Transfer
import DvcData.Proofs.Sets
/-
  The loop of `_do_transfer`: `stepDir` has two outcomes (`stepDir_cases`), every stretch of the loop obeys one accounting
  relation that composes (`Run`), and the destination grows by a `SafeExt`, so that every cut of it is closed.
  Last, the fields of what `transferWith` returns in terms of `doTransfer`.
-/
namespace DvcData.Transfer
open DvcData Status

variable {Oid : Type} [DecidableEq Oid]

omit [DecidableEq Oid] in
theorem addAll_eq (cx : Ctx Oid) (dest xs : List Oid) :
    addAll cx dest xs = (dest ++ xs.filter (fun x => !cx.fails x), xs.filter cx.fails) := by
  induction xs generalizing dest with
  | nil => simp [addAll]
  | cons x xs ih => cases hx : cx.fails x <;> simp [addAll, hx, ih]

omit [DecidableEq Oid] in
theorem mem_filter_fails_em (cx : Ctx Oid) {xs : List Oid} {x : Oid} (h : x ∈ xs) :
    x ∈ xs.filter (fun x => !cx.fails x) ∨ x ∈ xs.filter cx.fails := by
  cases hf : cx.fails x
  · exact Or.inl (List.mem_filter.mpr ⟨h, by simp [hf]⟩)
  · exact Or.inr (List.mem_filter.mpr ⟨h, hf⟩)

/-- `addAll` never lets a failing object arrive -/
theorem addAll_new_ok (cx : Ctx Oid) (xs : List Oid) : ∀ dest x, x ∈ (addAll cx dest xs).1 → x ∈ dest ∨ (x ∈ xs ∧ cx.fails x = false) := by
  intro dest x h
  simpa [addAll_eq] using h

/-- the files `stepDir` uploads for `d`: its entries that are still pending -/
abbrev batch (cx : Ctx Oid) (s : St Oid) (d : Oid) : List Oid := s.pending.filter (· ∈ cx.L d)

theorem stepDir_cases (cx : Ctx Oid) (s : St Oid) (d : Oid) :
    stepDir cx s d = { s with dest := s.dest ++ (batch cx s d).filter (fun x => !cx.fails x),
                              pending := s.pending.filter (· ∉ cx.L d),
                              failed := s.failed ++ (batch cx s d).filter cx.fails ++ [d] } ∨
    ((∀ f ∈ cx.L d, f ∉ s.failed ∧ f ∉ cx.missing) ∧
      stepDir cx s d = { s with dest := s.dest ++ batch cx s d ++ [d], pending := s.pending.filter (· ∉ cx.L d),
                                okDirs := s.okDirs ++ [d] }) := by
  unfold stepDir
  simp only [addAll_eq]
  by_cases h : (batch cx s d).filter cx.fails ≠ [] ∨ (cx.L d).any (· ∈ s.failed) = true
  · rw [if_pos h]; exact Or.inl rfl
  · rw [if_neg h]
    -- nothing of the batch failed, so the three remaining branches differ only in whether `d` goes up
    obtain ⟨hdf, hfl⟩ := not_or.mp h
    have hf : (batch cx s d).filter cx.fails = [] := Decidable.not_not.mp hdf
    have hall : ∀ x ∈ batch cx s d, cx.fails x = false := fun x hx => by simpa using List.filter_eq_nil_iff.mp hf x hx
    rw [hf, List.append_nil, List.filter_eq_self.mpr fun x hx => by rw [hall x hx]; rfl]
    by_cases hm : (cx.L d).any (· ∈ cx.missing) = true
    · rw [if_pos hm]; exact Or.inl rfl
    · rw [if_neg hm]
      by_cases hd : cx.fails d = true
      · rw [if_pos hd]; exact Or.inl rfl
      · rw [if_neg hd]
        exact Or.inr ⟨fun f hf' =>
          ⟨fun hfa => hfl (List.any_eq_true.mpr ⟨f, hf', by simpa using hfa⟩),
           fun hmis => hm (List.any_eq_true.mpr ⟨f, hf', by simpa using hmis⟩)⟩, rfl⟩

/-- the accounting every stretch of `_do_transfer` obeys, whatever fails: `s` is the state before, `ds` the directories
    processed, `t` the state after -/
structure Run (s : St Oid) (ds : List Oid) (t : St Oid) : Prop where
  dest_mono : ∀ x ∈ s.dest, x ∈ t.dest
  failed_mono : ∀ x ∈ s.failed, x ∈ t.failed
  pending_sub : ∀ x ∈ t.pending, x ∈ s.pending
  moved : ∀ x, x ∈ s.pending ∨ x ∈ ds → x ∈ t.pending ∨ x ∈ t.dest ∨ x ∈ t.failed
  failed_sub : ∀ x ∈ t.failed, x ∈ s.failed ∨ x ∈ ds ∨ x ∈ s.pending
  okDirs_sub : ∀ x ∈ t.okDirs, x ∈ s.okDirs ∨ (x ∈ ds ∧ x ∈ t.dest)

omit [DecidableEq Oid] in
theorem Run.refl (s : St Oid) : Run s [] s :=
  ⟨fun _ h => h, fun _ h => h, fun _ h => h, fun _ h => h.imp_right nofun, fun _ h => Or.inl h, fun _ h => Or.inl h⟩

omit [DecidableEq Oid] in
theorem Run.trans {s t u : St Oid} {ds es : List Oid} (h1 : Run s ds t) (h2 : Run t es u) :
    Run s (ds ++ es) u where
  dest_mono x h := h2.dest_mono x (h1.dest_mono x h)
  failed_mono x h := h2.failed_mono x (h1.failed_mono x h)
  pending_sub x h := h1.pending_sub x (h2.pending_sub x h)
  moved x h := by
    rcases or_assoc.mpr (h.imp_right List.mem_append.mp) with h | h
    · rcases h1.moved x h with h | h | h
      · exact h2.moved x (Or.inl h)
      · exact Or.inr (Or.inl (h2.dest_mono x h))
      · exact Or.inr (Or.inr (h2.failed_mono x h))
    · exact h2.moved x (Or.inr h)
  failed_sub x h := by
    rcases h2.failed_sub x h with h | h | h
    · rcases h1.failed_sub x h with h | h | h
      · exact Or.inl h
      · exact Or.inr (Or.inl (List.mem_append_left _ h))
      · exact Or.inr (Or.inr h)
    · exact Or.inr (Or.inl (List.mem_append_right _ h))
    · exact Or.inr (Or.inr (h1.pending_sub x h))
  okDirs_sub x h := by
    rcases h2.okDirs_sub x h with h | ⟨h, hd⟩
    · rcases h1.okDirs_sub x h with h | ⟨h, hd⟩
      · exact Or.inl h
      · exact Or.inr ⟨List.mem_append_left _ h, h2.dest_mono x hd⟩
    · exact Or.inr ⟨List.mem_append_right _ h, hd⟩

theorem stepDir_run (cx : Ctx Oid) (s : St Oid) (d : Oid) : Run s [d] (stepDir cx s d) := by
  -- a pending file stays pending unless `d` lists it; then it is in the batch
  have hfile : ∀ x ∈ s.pending, x ∈ s.pending.filter (· ∉ cx.L d) ∨ x ∈ batch cx s d := fun x hx =>
    (Decidable.em (x ∈ cx.L d)).symm.imp (fun hm => List.mem_filter.mpr ⟨hx, by simpa using hm⟩)
      fun hm => List.mem_filter.mpr ⟨hx, by simpa using hm⟩
  rcases stepDir_cases cx s d with h | ⟨_, h⟩ <;> rw [h]
  · exact {
      dest_mono := fun x hx => List.mem_append_left _ hx
      failed_mono := fun x hx => List.mem_append_left _ (List.mem_append_left _ hx)
      pending_sub := fun x hx => (List.mem_filter.mp hx).1
      moved := fun x hx => hx.elim
        (fun hx => (hfile x hx).imp_right fun hb =>
          (mem_filter_fails_em cx hb).imp (List.mem_append_right _) fun h => List.mem_append_left _ (List.mem_append_right _ h))
        fun hx => Or.inr (Or.inr (List.mem_append_right _ hx))
      failed_sub := fun x hx => by
        rcases List.mem_append.mp hx with hx | hx
        · exact (List.mem_append.mp hx).imp_right fun hx => Or.inr (List.mem_filter.mp (List.mem_filter.mp hx).1).1
        · exact Or.inr (Or.inl hx)
      okDirs_sub := fun x hx => Or.inl hx }
  · exact {
      dest_mono := fun x hx => List.mem_append_left _ (List.mem_append_left _ hx)
      failed_mono := fun x hx => hx
      pending_sub := fun x hx => (List.mem_filter.mp hx).1
      moved := fun x hx => hx.elim
        (fun hx => (hfile x hx).imp_right fun hb => Or.inl (List.mem_append_left _ (List.mem_append_right _ hb)))
        fun hx => Or.inr (Or.inl (List.mem_append_right _ hx))
      failed_sub := fun x hx => Or.inl hx
      okDirs_sub := fun x hx => (List.mem_append.mp hx).imp_right fun hx => ⟨hx, List.mem_append_right _ hx⟩ }

theorem foldl_run (cx : Ctx Oid) : ∀ (ds : List Oid) (s : St Oid), Run s ds (ds.foldl (stepDir cx) s)
  | [], s => .refl s
  | d :: ds, s => (stepDir_run cx s d).trans (foldl_run cx ds _)

theorem doTransfer_run (cx : Ctx Oid) (s : St Oid) (dirs : List Oid) : Run s dirs (doTransfer cx s dirs) := by
  have h : Run (dirs.foldl (stepDir cx) s) [] (doTransfer cx s dirs) := by
    unfold doTransfer
    simp only [addAll_eq]
    exact {
      dest_mono := fun x hx => List.mem_append_left _ hx
      failed_mono := fun x hx => List.mem_append_left _ hx
      pending_sub := nofun
      moved := fun x hx => Or.inr ((mem_filter_fails_em cx (hx.resolve_right nofun)).imp (List.mem_append_right _)
        (List.mem_append_right _))
      failed_sub := fun x hx => (List.mem_append.mp hx).imp_right fun hx => Or.inr (List.mem_filter.mp hx).1
      okDirs_sub := fun x hx => Or.inl hx }
  simpa using (foldl_run cx dirs s).trans h

/-- **accounting**: after `_do_transfer`, every object that had to move (pending files and the
    directories processed) is in the destination or reported failed — for every directory
    order and every failure predicate. -/
theorem doTransfer_accounts (cx : Ctx Oid) (s : St Oid) (dirs : List Oid) (x : Oid)
    (hx : x ∈ s.pending ∨ x ∈ dirs) :
    x ∈ (doTransfer cx s dirs).dest ∨ x ∈ (doTransfer cx s dirs).failed :=
  -- nothing is pending at the end
  ((doTransfer_run cx s dirs).moved x hx).resolve_left (by simp [doTransfer])

theorem doTransfer_failed_sub (cx : Ctx Oid) (s : St Oid) (dirs : List Oid) (x : Oid)
    (h : x ∈ (doTransfer cx s dirs).failed) : x ∈ s.failed ∨ x ∈ dirs ∨ x ∈ s.pending :=
  (doTransfer_run cx s dirs).failed_sub x h

/-- with no failing upload and no entry missing on both sides nothing is reported failed (what `retry_completes`
    rests on; by accounting everything that had to move is then in the destination) -/
theorem doTransfer_nofail (cx : Ctx Oid) (hnf : ∀ x, cx.fails x = false) (s : St Oid) (dirs : List Oid)
    (hs : s.failed = []) (hm : ∀ d ∈ dirs, ∀ f ∈ cx.L d, f ∉ cx.missing) :
    (doTransfer cx s dirs).failed = [] := by
  have : (dirs.foldl (stepDir cx) s).failed = [] :=
    List.foldlRecOn (motive := fun t : St Oid => t.failed = []) dirs _ hs fun t ht d hd => by
      -- none of `stepDir`'s tests fires, so the directory goes up and `failed` stays as it is
      have h2 : ¬ ((cx.L d).any (fun x => decide (x ∈ cx.missing)) = true) := by simpa using hm d hd
      simp [stepDir, addAll_eq, hnf, ht, h2]
  simp [doTransfer, addAll_eq, hnf, this]

/-- the loop invariant: every entry of every directory still to be processed is accounted for -/
def Acc (cx : Ctx Oid) (s : St Oid) (dirs : List Oid) : Prop :=
  ∀ d ∈ dirs, ∀ f ∈ cx.L d, f ∈ s.dest ∨ f ∈ s.pending ∨ f ∈ s.failed ∨ f ∈ cx.missing

omit [DecidableEq Oid] in
theorem Run.acc {cx : Ctx Oid} {s t : St Oid} {ds dirs : List Oid} (h : Run s ds t) (ha : Acc cx s dirs) :
    Acc cx t dirs := by
  intro d hd f hf
  rcases ha d hd f hf with h1 | h1 | h1 | h1
  · exact Or.inl (h.dest_mono f h1)
  · rcases h.moved f (Or.inl h1) with h2 | h2 | h2
    · exact Or.inr (Or.inl h2)
    · exact Or.inl h2
    · exact Or.inr (Or.inr (Or.inl h2))
  · exact Or.inr (Or.inr (Or.inl (h.failed_mono f h1)))
  · exact Or.inr (Or.inr (Or.inr h1))

/-- `d` extends `d0` one object at a time, never adding a directory before its files -/
inductive SafeExt (cx : Ctx Oid) : List Oid → List Oid → Prop
  | refl (d) : SafeExt cx d d
  | snoc {d0 d x} : SafeExt cx d0 d → (cx.isDir x = true → ∀ f ∈ cx.L x, f ∈ d) → SafeExt cx d0 (d ++ [x])

omit [DecidableEq Oid] in
theorem SafeExt.trans {cx : Ctx Oid} {a b c : List Oid} (h1 : SafeExt cx a b) (h2 : SafeExt cx b c) : SafeExt cx a c := by
  induction h2 with
  | refl => exact h1
  | snoc _ hx ih => exact .snoc ih hx

omit [DecidableEq Oid] in
theorem SafeExt.append_files {cx : Ctx Oid} : ∀ (d : List Oid) {xs : List Oid}, (∀ x ∈ xs, cx.isDir x = false) →
    SafeExt cx d (d ++ xs)
  | d, [], _ => by simpa using SafeExt.refl d
  | d, x :: xs, h => by
    have hx : SafeExt cx d (d ++ [x]) := .snoc (.refl d) (by simp [h x (by simp)])
    simpa using hx.trans (append_files (d ++ [x]) fun y hy => h y (by simp [hy]))

omit [DecidableEq Oid] in
theorem SafeExt.closed {cx : Ctx Oid} {d0 d : List Oid} (h : SafeExt cx d0 d) (h0 : Closed cx d0) : Closed cx d := by
  induction h with
  | refl => exact h0
  | snoc _ hx ih =>
    intro t ht hd f hf
    rcases List.mem_append.mp ht with ht | ht
    · exact List.mem_append_left _ (ih t ht hd f hf)
    · rw [List.mem_singleton.mp ht] at hd hf; exact List.mem_append_left _ (hx hd f hf)

omit [DecidableEq Oid] in
theorem SafeExt.take {cx : Ctx Oid} {d0 d : List Oid} (h : SafeExt cx d0 d) {k : Nat} (hk : d0.length ≤ k) :
    SafeExt cx d0 (d.take k) := by
  induction h with
  | refl => rw [List.take_of_length_le hk]; exact .refl _
  | @snoc d x hs hx ih =>
    by_cases hle : k ≤ d.length
    · rw [List.take_append_of_le_length hle]; exact ih
    · rw [List.take_of_length_le (by simp; omega)]; exact .snoc hs hx

theorem stepDir_safe {cx : Ctx Oid} {s : St Oid} {d : Oid} {rest : List Oid} (hp : ∀ x ∈ s.pending, cx.isDir x = false)
    (hacc : Acc cx s (d :: rest)) : SafeExt cx s.dest (stepDir cx s d).dest := by
  have hb : ∀ x ∈ batch cx s d, cx.isDir x = false := fun x hx => hp x (List.mem_filter.mp hx).1
  rcases stepDir_cases cx s d with h | ⟨hok, h⟩ <;> rw [h]
  · exact .append_files _ fun x hx => hb x (List.mem_filter.mp hx).1
  · -- the directory object goes up only when each entry is already there
    refine .snoc (.append_files _ hb) fun _ f hf => ?_
    rcases hacc d List.mem_cons_self f hf with h1 | h1 | h1 | h1
    · exact List.mem_append_left _ h1
    · exact List.mem_append_right _ (List.mem_filter.mpr ⟨h1, by simpa using hf⟩)
    · exact absurd h1 (hok f hf).1
    · exact absurd h1 (hok f hf).2

theorem foldl_safe (cx : Ctx Oid) : ∀ (dirs : List Oid) (s : St Oid),
    (∀ x ∈ s.pending, cx.isDir x = false) → Acc cx s dirs → SafeExt cx s.dest (dirs.foldl (stepDir cx) s).dest
  | [], _, _, _ => .refl _
  | d :: rest, s, hp, hacc =>
    have hr := stepDir_run cx s d
    (stepDir_safe hp hacc).trans
      (foldl_safe cx rest _ (fun x hx => hp x (hr.pending_sub x hx))
        (hr.acc fun e he => hacc e (List.mem_cons_of_mem _ he)))

theorem doTransfer_safe {cx : Ctx Oid} {s : St Oid} {dirs : List Oid}
    (hp : ∀ x ∈ s.pending, cx.isDir x = false) (hacc : Acc cx s dirs) : SafeExt cx s.dest (doTransfer cx s dirs).dest := by
  refine (foldl_safe cx dirs s hp hacc).trans ?_
  unfold doTransfer
  simp only [addAll_eq]
  exact .append_files _ fun x hx => hp x ((foldl_run cx dirs s).pending_sub x (List.mem_filter.mp hx).1)

/-- C04 core: for every processing order `dirs`, every failure predicate, every crash cut `k`,
    the destination is closed. (`hk`: the initial destination comes in no particular order, so only cuts that
    contain all of it are spoken of.) -/
theorem closed_every_prefix (cx : Ctx Oid) (s : St Oid) (dirs : List Oid) (k : Nat)
    (h0 : Closed cx s.dest) (hp : ∀ x ∈ s.pending, cx.isDir x = false) (hacc : Acc cx s dirs)
    (hk : s.dest.length ≤ k) :
    Closed cx ((doTransfer cx s dirs).dest.take k) :=
  ((doTransfer_safe hp hacc).take hk).closed h0

/-! ### what `transferWith` returns, field by field (the `fun_cases` branches: nothing new; nothing failed; something failed) -/

/-- the state in which `transferWith` enters `_do_transfer` -/
abbrev start (cx : Ctx Oid) (dest0 new : List Oid) : St Oid :=
  { dest := dest0, pending := new.filter fun x => !cx.isDir x, failed := [] }

theorem transferWith_dest {cx : Ctx Oid} {dest0 new : List Oid} {idx : Option (RIndex Oid)}
    {dirOrder : List Oid} (hne : new ≠ []) :
    (transferWith cx dest0 new idx dirOrder).dest = (doTransfer cx (start cx dest0 new) dirOrder).dest := by
  fun_cases transferWith cx dest0 new idx dirOrder
  · next he => exact absurd (List.isEmpty_iff.mp he) hne
  · rfl
  · rfl

theorem mem_transferWith_failed {cx : Ctx Oid} {dest0 new : List Oid} {idx : Option (RIndex Oid)}
    {dirOrder : List Oid} {x : Oid} :
    x ∈ (transferWith cx dest0 new idx dirOrder).failed ↔
      new ≠ [] ∧ x ∈ (doTransfer cx (start cx dest0 new) dirOrder).failed := by
  have hd := mem_dedup (a := (doTransfer cx (start cx dest0 new) dirOrder).failed) (y := x)
  fun_cases transferWith cx dest0 new idx dirOrder
  · next he => simp [List.isEmpty_iff.mp he]
  · next he =>
    -- nothing failed: the model returns `failed := []`, and `dedup s.failed` is empty too
    have h0 : dedup (doTransfer cx (start cx dest0 new) dirOrder).failed = [] := List.isEmpty_iff.mp he
    rw [h0] at hd
    exact ⟨nofun, fun h => nomatch hd.mpr h.2⟩
  · -- something failed: the branch brings `hemp : ¬new.isEmpty`, then the `let`s `files`, `s`, `failed := dedup s.failed`,
    -- then `¬failed.isEmpty`
    next hemp files s failed _ =>
    -- the goal's `.failed` is the `let`-variable `failed`; with the `let`s and the abbreviation `start` unfolded it reads
    show x ∈ dedup (doTransfer cx (start cx dest0 new) dirOrder).failed ↔ _
    exact ⟨fun h => ⟨mt List.isEmpty_iff.mpr hemp, hd.mp h⟩, fun h => hd.mpr h.2⟩

theorem mem_transferWith_transferred {cx : Ctx Oid} {dest0 new : List Oid} {idx : Option (RIndex Oid)}
    {dirOrder : List Oid} {x : Oid} :
    x ∈ (transferWith cx dest0 new idx dirOrder).transferred ↔
      x ∈ new ∧ x ∉ (transferWith cx dest0 new idx dirOrder).failed := by
  fun_cases transferWith cx dest0 new idx dirOrder
  · next he => simp [List.isEmpty_iff.mp he]
  · simp
  · exact mem_diff

theorem transferWith_destIndex (cx : Ctx Oid) (dest0 new : List Oid) (idx : Option (RIndex Oid)) (dirOrder : List Oid) :
    (transferWith cx dest0 new idx dirOrder).destIndex = idx ∨
    (new ≠ [] ∧ (transferWith cx dest0 new idx dirOrder).destIndex =
      idx.map fun i => indexDirs cx i (doTransfer cx (start cx dest0 new) dirOrder).okDirs) := by
  fun_cases transferWith cx dest0 new idx dirOrder
  · exact Or.inl rfl
  · -- nothing failed (the branch brings `hemp : ¬new.isEmpty`, the `let`s `files`, `s`, `failed` and `failed.isEmpty`):
    -- the index gets the directories of `s.okDirs`, and `s` is `doTransfer cx (start cx dest0 new) dirOrder` by unfolding (`rfl`)
    next hemp files s failed _ => exact Or.inr ⟨mt List.isEmpty_iff.mpr hemp, rfl⟩
  · exact Or.inl rfl

end DvcData.Transfer

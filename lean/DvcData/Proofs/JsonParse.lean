import DvcData.Proofs.Json
/-!
`parseList` inverts `renderList`, level by level: value, member, object, list. Objects and lists are both bracketed
comma-separated sequences, and their tails are read by one loop (`sepTail_parse`).
-/
namespace DvcData.Json
open List

def renderMember (p : List Char × JVal) : List Char := renderStr p.1 ++ ':' :: ' ' :: renderVal p.2

/-- rendering of an object whose members are already in output order -/
def renderMembers (ms : JObj) : List Char := '{' :: commaSep (ms.map renderMember) ++ ['}']

theorem renderObj_eq (o : JObj) : renderObj o = renderMembers (sortKeys o) := rfl

/-- rendering of a list of objects whose members are already in output order -/
def renderObjs (os : List JObj) : List Char := '[' :: commaSep (os.map renderMembers) ++ [']']

/-! ### comma-separated sequences

`commaSep` puts the separator *between* items; a parser meets it *in front of* every item but the first. `sepTail`
is the text after the first item, up to and including the closing bracket. -/

def sepTail (close : Char) : List (List Char) → List Char
  | [] => [close]
  | x :: xs => ',' :: ' ' :: x ++ sepTail close xs

theorem commaSep_cons (x : List Char) (xs : List (List Char)) (close : Char) :
    commaSep (x :: xs) ++ [close] = x ++ sepTail close xs := by
  induction xs generalizing x with
  | nil => rfl
  | cons y ys ih => simp only [commaSep, sepTail, append_assoc, cons_append, ih y]

theorem noDigitHead_sepTail {close : Char} (hc : isDigit close = false) (xs : List (List Char)) (rest : List Char) :
    NoDigitHead (sepTail close xs ++ rest) := by
  cases xs with
  | nil => exact noDigitHead_cons hc rest
  | cons x xs => exact noDigitHead_cons (by decide) _

/-- The loop that `parseMembersTail` and `parseObjsTail` share. A `tail` that stops at `close` and otherwise reads
    `, ` and one item with `item` inverts `sepTail` over every renderer that `item` inverts. One unit of fuel per
    item is enough, and the rendered text is longer than that. -/
theorem sepTail_parse {α : Type} (render : α → List Char) (close : Char) (hc : isDigit close = false)
    (item : Nat → List Char → Option (α × List Char)) (tail : Nat → List Char → Option (List α × List Char))
    (hclose : ∀ f r, tail (f + 1) (close :: r) = some ([], r))
    (hsep : ∀ {f r x r' xs r''}, item (f + 1) r = some (x, r') → tail f r' = some (xs, r'') →
      tail (f + 1) (',' :: ' ' :: r) = some (x :: xs, r''))
    (hitem : ∀ x rest f, (render x).length < f → NoDigitHead rest → item f (render x ++ rest) = some (x, rest))
    (xs : List α) (rest : List Char) (f : Nat) (hf : (sepTail close (xs.map render)).length < f) :
    tail f (sepTail close (xs.map render) ++ rest) = some (xs, rest) := by
  induction xs generalizing f with
  | nil => match f, hf with | f + 1, _ => exact hclose f rest
  | cons x xs ih =>
    match f, hf with
    | f + 1, hf =>
      simp only [map_cons, sepTail, length_cons, length_append] at hf
      simp only [map_cons, sepTail, cons_append, append_assoc]
      exact hsep (hitem x _ (f + 1) (by omega) (noDigitHead_sepTail hc _ rest)) (ih f (by omega))

/-! ### values, members, objects, lists -/

theorem parseVal_digit (f : Nat) {d : Char} (hd : isDigit d = true) (ds : List Char) :
    parseVal f (d :: ds) = (parseNat (d :: ds)).map fun p => (.int p.1, p.2) := by
  -- the first four clauses of `parseVal` start with `"`, `t`, `f`, `n`: none is a digit
  rw [parseVal.eq_5] <;> (rintro _ ⟨⟩; exact absurd hd (by decide))

theorem parseVal_render (v : JVal) (rest : List Char) (f : Nat)
    (hf : (renderVal v).length < f) (hr : NoDigitHead rest) :
    parseVal f (renderVal v ++ rest) = some (v, rest) := by
  cases v with
  | str s =>
    have hf : (renderStr s).length < f := hf
    have := length_le_esc s
    simp only [renderStr, length_cons, length_append] at hf
    -- the first clause of `parseVal` reads a string literal as `parseStrLit` does
    show (parseStrLit f (renderStr s ++ rest)).map (fun p => (JVal.str p.1, p.2)) = _
    rw [parseStrLit_render s rest f (by omega)]; rfl
  | bool b => cases b <;> rfl
  | null => rfl
  | int n =>
    have hp : parseNat (renderNat n ++ rest) = some (n, rest) := parseNat_render n rest hr
    obtain ⟨d, ds, e⟩ := exists_cons_of_ne_nil (renderNat_ne_nil n)
    have hd : isDigit d = true := renderNat_digits n d (by simp [e])
    show parseVal f (renderNat n ++ rest) = _
    simp only [e, cons_append] at hp ⊢
    rw [parseVal_digit f hd, hp]; rfl

theorem parseMember_render (p : List Char × JVal) (rest : List Char) (f : Nat)
    (hf : (renderMember p).length < f) (hr : NoDigitHead rest) :
    parseMember f (renderMember p ++ rest) = some (p, rest) := by
  obtain ⟨k, v⟩ := p
  simp only [renderMember, renderStr, length_cons, length_append] at hf
  have := length_le_esc k
  simp only [parseMember, renderMember, append_assoc, cons_append, parseStrLit_render k _ f (by omega),
    parseVal_render v rest f (by omega) hr]
  rfl

theorem parseMembersTail_render (ms : JObj) (rest : List Char) (f : Nat)
    (hf : (sepTail '}' (ms.map renderMember)).length < f) :
    parseMembersTail f (sepTail '}' (ms.map renderMember) ++ rest) = some (ms, rest) :=
  sepTail_parse renderMember '}' (by decide) parseMember parseMembersTail (fun _ _ => rfl)
    (fun h h' => by simp only [parseMembersTail, h, h', Option.map_some])
    parseMember_render ms rest f hf

theorem parseObj_render (ms : JObj) (rest : List Char) (f : Nat)
    (hf : (renderMembers ms).length < f) :
    parseObj f (renderMembers ms ++ rest) = some (ms, rest) := by
  cases ms with
  | nil => rfl
  | cons m ms =>
    simp only [renderMembers, map_cons, cons_append, commaSep_cons, append_assoc, length_cons, length_append] at hf ⊢
    -- a member starts with a quote, not with `}`: the second clause of `parseObj`
    rw [parseObj.eq_2 f _ (fun _ e => by simp [renderMember, renderStr] at e),
      parseMember_render m _ f (by omega) (noDigitHead_sepTail (by decide) _ rest)]
    simp only [parseMembersTail_render ms rest f (by omega)]
    rfl

theorem parseObjsTail_render (os : List JObj) (rest : List Char) (f : Nat)
    (hf : (sepTail ']' (os.map renderMembers)).length < f) :
    parseObjsTail f (sepTail ']' (os.map renderMembers) ++ rest) = some (os, rest) :=
  sepTail_parse renderMembers ']' (by decide) parseObj parseObjsTail (fun _ _ => rfl)
    (fun h h' => by simp only [parseObjsTail, h, h', Option.map_some])
    (fun o rest f hf _ => parseObj_render o rest f hf) os rest f hf

/-- **parser round trip**: parsing the rendering of a list of objects gives the objects back
    (members in output order) -/
theorem parseList_renderObjs (os : List JObj) : parseList (renderObjs os) = some os := by
  cases os with
  | nil => rfl
  | cons o os =>
    -- written with a trailing `++ []`: the `_render` lemmas speak of a text followed by a rest, here the empty one
    have e : renderObjs (o :: os) = '[' :: (renderMembers o ++ (sepTail ']' (os.map renderMembers) ++ [])) := by
      simp only [renderObjs, map_cons, cons_append, commaSep_cons, append_nil]
    -- an object starts with `{`, not with `]`: the second clause of `parseList`
    rw [e, parseList.eq_2 _ (fun e => by simp [renderMembers] at e),
      parseObj_render o _ _ (by simp only [length_cons, length_append]; omega)]
    simp only  -- reduces the `match some (o, _) with` that the rewrite left
    rw [parseObjsTail_render os [] _ (by simp only [length_cons, length_append]; omega)]

theorem parseList_renderList (l : List JObj) : parseList (renderList l) = some (l.map sortKeys) := by
  -- `renderList` sorts the members of each object and renders them in that order
  have h := parseList_renderObjs (l.map sortKeys)
  rwa [renderObjs, map_map] at h

/-- **injectivity of the serialisation**: equal bytes, equal (key-sorted) listings -/
theorem renderList_injective (l1 l2 : List JObj) (h : renderList l1 = renderList l2) :
    l1.map sortKeys = l2.map sortKeys :=
  Option.some.inj (by rw [← parseList_renderList l1, h, parseList_renderList l2])

end DvcData.Json

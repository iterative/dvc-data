import DvcData.Model.Path
/-!
`splitC` and `joinC` are inverse to each other: `splitC_joinC` on well-formed keys (hence `joinC_injective`), `joinC_splitC`
on every string; `stripPrefix_eq_some` says when a key lies below another.
-/
namespace DvcData.Path

/-! `splitC` read by clauses: a separator opens a new part, any other character joins the first part of the rest
    (which always exists: the `[]` arm of the inner `match` is never taken). -/

theorem splitC_sep_cons (s : List Char) : splitC (sep :: s) = [] :: splitC s := by
  simp [splitC]

theorem splitC_cons_of_ne {c : Char} (hc : c ≠ sep) {r : List Char} {p : Part} {ps : Key} (h : splitC r = p :: ps) :
    splitC (c :: r) = (c :: p) :: ps := by
  simp [splitC, hc, h]

theorem splitC_append {p : Part} (hp : sep ∉ p) {s : List Char} {q : Part} {qs : Key} (h : splitC s = q :: qs) :
    splitC (p ++ s) = (p ++ q) :: qs := by
  induction p with
  | nil => exact h
  | cons c r ih =>
    rw [List.mem_cons, not_or] at hp
    exact splitC_cons_of_ne (Ne.symm hp.1) (ih hp.2)

/-- `"/".join(key).split("/") == key` for every key that has a textual form -/
theorem splitC_joinC (k : Key) (h : KeyOK k) : splitC (joinC k) = k := by
  obtain ⟨hne, hp⟩ := h
  induction k with
  | nil => exact absurd rfl hne
  | cons p r ih =>
    have hp' : sep ∉ p := hp p List.mem_cons_self
    cases r with
    | nil => simpa [joinC] using splitC_append hp' (s := []) rfl
    | cons q r' =>
      rw [joinC, splitC_append hp' (splitC_sep_cons _), List.append_nil,
        ih (List.cons_ne_nil _ _) fun x hx => hp x (List.mem_cons_of_mem _ hx)]

/-- hence distinct keys have distinct relpaths -/
theorem joinC_injective (k1 k2 : Key) (h1 : KeyOK k1) (h2 : KeyOK k2) (h : joinC k1 = joinC k2) :
    k1 = k2 := by
  rw [← splitC_joinC k1 h1, ← splitC_joinC k2 h2, h]

theorem splitC_KeyOK (s : List Char) : KeyOK (splitC s) := by
  induction s with
  | nil => decide
  | cons c r ih =>
    obtain ⟨p, ps, e⟩ := List.exists_cons_of_ne_nil ih.1
    by_cases hc : c = sep
    · rw [hc, splitC_sep_cons]
      exact ⟨List.cons_ne_nil _ _, List.forall_mem_cons.mpr ⟨List.not_mem_nil, ih.2⟩⟩
    · rw [splitC_cons_of_ne hc e]
      rw [e] at ih
      obtain ⟨h1, h2⟩ := List.forall_mem_cons.mp ih.2
      refine ⟨List.cons_ne_nil _ _, List.forall_mem_cons.mpr ⟨?_, h2⟩⟩
      rw [List.mem_cons, not_or]
      exact ⟨Ne.symm hc, h1⟩

theorem joinC_cons_cons (c : Char) (p : Part) (ps : Key) : joinC ((c :: p) :: ps) = c :: joinC (p :: ps) := by
  cases ps <;> rfl

/-- `split` then `join` is the identity on every string -/
theorem joinC_splitC (s : List Char) : joinC (splitC s) = s := by
  induction s with
  | nil => rfl
  | cons c r ih =>
    obtain ⟨p, ps, e⟩ := List.exists_cons_of_ne_nil (splitC_KeyOK r).1
    by_cases hc : c = sep
    · rw [hc, splitC_sep_cons, e, joinC, ← e, ih]; rfl
    · rw [splitC_cons_of_ne hc e, joinC_cons_cons, ← e, ih]

theorem stripPrefix_eq_some {k x r : Key} : stripPrefix k x = some r ↔ x = k ++ r := by
  induction k generalizing x with
  | nil => simp only [stripPrefix, Option.some.injEq, List.nil_append]
  | cons p ps ih =>
    cases x with
    | nil => simp [stripPrefix]
    | cons q qs =>
      simp only [stripPrefix, List.cons_append, List.cons.injEq]
      by_cases e : p = q
      · simp [e, ih]
      · simp [e, Ne.symm e]

end DvcData.Path

import DvcData.Model.IndexLazy
import DvcData.Proofs.AList
/-!
One `_load`, and the vocabulary to speak about it. `longestPrefix` is characterised by `IsLP`; `denote` is what an index
*means* at a key (an explicit entry, or what the directory object of the longest explicit prefix lists there). `loadAt`
acts exactly at the directories that are `UL` (`loadAt_cases`) and then yields `loadedIdx`, whose bindings
`lookup_loadedIdx` gives (from `lookup_setAll`: the last write wins). From these, every fact about a single `loadAt`:
it keeps `W1`, `WF` and the meaning at every key, makes no directory `UL` and leaves the loaded one not `UL`, is idempotent.
What the read operations do with it is in `Props/C17.lean`.
-/
namespace DvcData.IndexLazy
open DvcData Path AList

/-- `p` is the longest key bound in `idx` that is a prefix of `k` -/
def IsLP (idx : LIndex) (k p : Key) : Prop :=
  (idx.lookup p).isSome = true ∧ p <+: k ∧ ∀ q, (idx.lookup q).isSome = true → q <+: k → q.length ≤ p.length

theorem isLP_unique {idx : LIndex} {k p q : Key} (hp : IsLP idx k p) (hq : IsLP idx k q) : p = q :=
  (List.prefix_of_prefix_length_le hp.2.1 hq.2.1 (hq.2.2 p hp.1 hp.2.1)).eq_of_length
    (Nat.le_antisymm (hq.2.2 p hp.1 hp.2.1) (hp.2.2 q hq.1 hq.2.1))

/-- The scan, read from the right: the last entry is compared with the result for the rest, so the induction
    needs no accumulator. -/
theorem longestPrefix_reverse_spec (k : Key) (l : LIndex) :
    match longestPrefix l.reverse k with
    | none => ∀ q ∈ keys l, ¬ q <+: k
    | some p => p ∈ keys l ∧ p <+: k ∧ ∀ q ∈ keys l, q <+: k → q.length ≤ p.length := by
  induction l with
  | nil => exact fun _ h => absurd h List.not_mem_nil
  | cons a r ih =>
    simp only [longestPrefix, List.reverse_cons, List.foldl_append, List.foldl_cons, List.foldl_nil,
      keys, List.map_cons, List.forall_mem_cons] at ih ⊢
    generalize List.foldl _ none r.reverse = best at ih ⊢
    by_cases ha : a.1 <+: k
    · simp only [List.isPrefixOf_iff_prefix.mpr ha, if_true]
      cases best with
      | none => exact ⟨List.mem_cons_self, ha, fun _ => Nat.le_refl _, fun q hq hqk => absurd hqk (ih q hq)⟩
      | some b =>
        obtain ⟨hb, hbk, hmax⟩ := ih
        by_cases hlt : b.length < a.1.length
        · simp only [hlt, if_true]
          exact ⟨List.mem_cons_self, ha, fun _ => Nat.le_refl _,
            fun q hq hqk => Nat.le_trans (hmax q hq hqk) (Nat.le_of_lt hlt)⟩
        · simp only [hlt, if_false]
          exact ⟨List.mem_cons_of_mem _ hb, hbk, fun _ => Nat.le_of_not_lt hlt, hmax⟩
    · simp only [mt List.isPrefixOf_iff_prefix.mp ha]
      cases best with
      | none => exact ⟨ha, ih⟩
      | some b => exact ⟨List.mem_cons_of_mem _ ih.1, ih.2.1, fun h => absurd h ha, ih.2.2⟩

/-- `longestPrefix` returns the longest bound prefix, and `none` only when there is none -/
theorem longestPrefix_spec (idx : LIndex) (k : Key) :
    match longestPrefix idx k with
    | none => ∀ q, (idx.lookup q).isSome = true → ¬ q <+: k
    | some p => IsLP idx k p := by
  have h := longestPrefix_reverse_spec k idx.reverse
  have hk : ∀ q, q ∈ keys idx.reverse ↔ (idx.lookup q).isSome = true := fun q => by
    rw [lookup_isSome_iff_mem_keys, keys, keys, List.map_reverse, List.mem_reverse]
  rw [List.reverse_reverse] at h
  cases hlp : longestPrefix idx k with
  | none => rw [hlp] at h; exact fun q hq => h q ((hk q).mpr hq)
  | some p =>
    rw [hlp] at h
    exact ⟨(hk p).mp h.1, h.2.1, fun q hq => h.2.2 q ((hk q).mpr hq)⟩

theorem longestPrefix_eq_some_iff {idx : LIndex} {k p : Key} : longestPrefix idx k = some p ↔ IsLP idx k p := by
  have := longestPrefix_spec idx k
  cases hres : longestPrefix idx k with
  | none => rw [hres] at this; exact ⟨nofun, fun h => absurd h.2.1 (this p h.1)⟩
  | some q =>
    rw [hres] at this
    exact ⟨fun h => Option.some.inj h ▸ this, fun h => congrArg some (isLP_unique this h)⟩

theorem longestPrefix_eq_none_iff {idx : LIndex} {k : Key} :
    longestPrefix idx k = none ↔ ∀ q, (idx.lookup q).isSome = true → ¬ q <+: k := by
  have := longestPrefix_spec idx k
  cases hres : longestPrefix idx k with
  | none => rw [hres] at this; exact ⟨fun _ => this, fun _ => rfl⟩
  | some q => rw [hres] at this; exact ⟨nofun, fun h => absurd this.2.1 (h q this.1)⟩

theorem longestPrefix_congr {idx idx' : LIndex} {k : Key}
    (h : ∀ q, q <+: k → (idx'.lookup q).isSome = (idx.lookup q).isSome) : longestPrefix idx' k = longestPrefix idx k := by
  cases hlp : longestPrefix idx k with
  | some p =>
    obtain ⟨h1, h2, h3⟩ := longestPrefix_eq_some_iff.mp hlp
    exact longestPrefix_eq_some_iff.mpr
      ⟨(h p h2).trans h1, h2, fun q hq hqk => h3 q ((h q hqk).symm.trans hq) hqk⟩
  | none =>
    exact longestPrefix_eq_none_iff.mpr fun q hq hqk =>
      longestPrefix_eq_none_iff.mp hlp q ((h q hqk).symm.trans hq) hqk

theorem lookup_setAll (es idx : LIndex) (k : Key) :
    (setAll idx es).lookup k = (AList.lookup es.reverse k).or (idx.lookup k) :=
  lookup_foldl_set es idx k

theorem mem_of_lookup_setAll_nil {es : LIndex} {k : Key} {v : LEntry} (h : (setAll [] es).lookup k = some v) :
    (k, v) ∈ es := by
  rw [lookup_setAll, lookup_nil, Option.or_none] at h
  exact List.mem_reverse.mp (mem_of_lookup h)

/-- the last write wins; if every write to `k` carries `v`, the lookup gives `v` -/
theorem lookup_setAll_mem (es : LIndex) : ∀ (idx : LIndex) (k : Key) (v : LEntry),
    (k, v) ∈ es → (∀ c ∈ es, c.1 = k → c.2 = v) → (setAll idx es).lookup k = some v := by
  intro idx k v hm hf
  rw [lookup_setAll]
  cases h : AList.lookup es.reverse k with
  | none =>
    exact absurd (List.mem_map.mpr ⟨(k, v), List.mem_reverse.mpr hm, rfl⟩) (lookup_eq_none_iff.mp h)
  | some w => rw [← hf (k, w) (List.mem_reverse.mp (mem_of_lookup h)) rfl]; rfl

/-! ### what an index means at a key -/

/-- `d` is bound to a directory entry that is not loaded yet and whose directory object is available -/
def UL (load : Oid → Option Listing) (idx : LIndex) (d : Key) : Prop :=
  ∃ e, idx.lookup d = some e ∧ (e.isdir && !e.loaded) = true ∧ (e.hash.bind load).isSome = true

/-- the entry a lazily loaded directory provides at `k`: what `loadAt` would bind there; it makes the same three tests
    as `loadAt` (bound, unloaded directory, object available - the conjuncts of `UL`), so that `below_eq` and `loadAt_eq`
    have the same hypotheses -/
def below (load : Oid → Option Listing) (idx : LIndex) (k : Key) : Option LEntry :=
  match longestPrefix idx k with
  | some d =>
    match idx.lookup d with
    | some e =>
      if e.isdir && !e.loaded then
        match e.hash.bind load with
        | some l => (setAll [] (childrenOf d l)).lookup k
        | none => none
      else none
    | none => none
  | none => none

/-- **the meaning of an index at a key**: kind and hash of the explicit entry, or of what the
    directory object of the longest explicit prefix lists there -/
def denote (load : Oid → Option Listing) (idx : LIndex) (k : Key) : Option (Bool × Option Oid) :=
  match idx.lookup k with
  | some e => some (proj e)
  | none => (below load idx k).map proj

theorem below_eq {load : Oid → Option Listing} {idx : LIndex} {k d : Key} {e : LEntry} {l : Listing}
    (hlp : longestPrefix idx k = some d) (hd : idx.lookup d = some e) (hc : (e.isdir && !e.loaded) = true)
    (hl : e.hash.bind load = some l) : below load idx k = (setAll [] (childrenOf d l)).lookup k := by
  simp only [below, hlp, hd, hc, hl, if_true]

theorem below_some {load : Oid → Option Listing} {idx : LIndex} {k : Key} {v : LEntry} (h : below load idx k = some v) :
    ∃ d, longestPrefix idx k = some d ∧ UL load idx d := by
  revert h
  fun_cases below load idx k
  -- case1: a longest prefix that passes all three tests; in the other four branches `below` is `none`
  case case1 d hlp e hd hc l hl => exact fun _ => ⟨d, hlp, e, hd, hc, by rw [hl]; rfl⟩
  all_goals exact nofun

theorem below_eq_none {load : Oid → Option Listing} {idx : LIndex} {k : Key}
    (h : ∀ d, longestPrefix idx k = some d → ¬ UL load idx d) : below load idx k = none := by
  cases hb : below load idx k with
  | none => rfl
  | some v =>
    obtain ⟨d, hlp, hul⟩ := below_some hb
    exact absurd hul (h d hlp)

theorem denote_of_lookup {load : Oid → Option Listing} {idx : LIndex} {k : Key} {e : LEntry} (h : idx.lookup k = some e) :
    denote load idx k = some (proj e) := by
  simp only [denote, h]

theorem exists_UL_of_denote {load : Oid → Option Listing} {idx : LIndex} {k : Key} (hk : idx.lookup k = none)
    (h : (denote load idx k).isSome = true) : ∃ d, d <+: k ∧ UL load idx d := by
  simp only [denote, hk, Option.isSome_map] at h
  obtain ⟨v, hv⟩ := Option.isSome_iff_exists.mp h
  obtain ⟨d, hlp, hul⟩ := below_some hv
  exact ⟨d, (longestPrefix_eq_some_iff.mp hlp).2.1, hul⟩

theorem denote_congr {load : Oid → Option Listing} {idx idx' : LIndex} {k : Key}
    (h : ∀ q, q <+: k → idx'.lookup q = idx.lookup q) : denote load idx' k = denote load idx k := by
  have hlp : longestPrefix idx' k = longestPrefix idx k := longestPrefix_congr fun q hq => by rw [h q hq]
  unfold denote below
  rw [h k (List.prefix_refl k), hlp]
  cases hd : longestPrefix idx k with
  | none => rfl
  | some d => simp only [h d (longestPrefix_eq_some_iff.mp hd).2.1]

/-! ### loading is transparent -/

/-- well-formed lazy index: an unloaded directory entry has nothing explicit below it (its content is what its
    directory object lists) -/
def W1 (idx : LIndex) : Prop :=
  ∀ d e, idx.lookup d = some e → (e.isdir && !e.loaded) = true →
    ∀ q, (idx.lookup q).isSome = true → d <+: q → q = d

/-- directory objects list files under non-empty relative paths -/
def ListingsOK (load : Oid → Option Listing) : Prop := ∀ o l, load o = some l → ∀ e ∈ l, e.1 ≠ []

theorem strict_below_ne (d rel : Key) (h : rel ≠ []) : d ++ rel ≠ d :=
  fun e => h (List.append_right_eq_self.mp e)

/-- what `dirsOf` yields; nothing below needs it (the directory's own entry is written last, see `loadedIdx`) -/
theorem mem_dirsOf_ne_nil {l : Listing} {p : Key} (h : p ∈ dirsOf l) : p ≠ [] := by
  simp only [dirsOf, mem_foldl_insertSet, List.not_mem_nil, false_or, List.mem_flatMap, List.mem_map,
    List.mem_range] at h
  obtain ⟨e, _, i, hi, rfl⟩ := h
  exact List.ne_nil_of_length_pos (by rw [List.length_take]; omega)

theorem childrenOf_not_unloaded {d : Key} {l : Listing} {c : Key × LEntry} (hc : c ∈ childrenOf d l) :
    (c.2.isdir && !c.2.loaded) = false := by
  rcases List.mem_append.mp hc with h | h <;> obtain ⟨x, _, rfl⟩ := List.mem_map.mp h <;> rfl

theorem childrenOf_below {d : Key} {l : Listing} {c : Key × LEntry} (hc : c ∈ childrenOf d l) : d <+: c.1 := by
  rcases List.mem_append.mp hc with h | h <;> obtain ⟨x, _, rfl⟩ := List.mem_map.mp h <;> exact List.prefix_append _ _

theorem longestPrefix_of_unloaded {idx : LIndex} (hw : W1 idx) {d k : Key} {e : LEntry} (hd : idx.lookup d = some e)
    (hc : (e.isdir && !e.loaded) = true) (hdk : d <+: k) : longestPrefix idx k = some d := by
  refine longestPrefix_eq_some_iff.mpr ⟨by rw [hd]; rfl, hdk, fun q hq hqk => ?_⟩
  -- a bound prefix of `k` longer than `d` would lie below `d`
  rcases List.prefix_or_prefix_of_prefix hqk hdk with h | h
  · exact h.length_le
  · rw [hw d e hd hc q hq h]; exact Nat.le_refl _

/-- the index after `_load(d)` succeeded -/
def loadedIdx (idx : LIndex) (d : Key) (e : LEntry) (l : Listing) : LIndex :=
  (setAll idx (childrenOf d l)).set d { e with loaded := true }

theorem lookup_loadedIdx (idx : LIndex) (d : Key) (e : LEntry) (l : Listing) (q : Key) :
    (loadedIdx idx d e l).lookup q =
      if d = q then some { e with loaded := true } else
      ((setAll [] (childrenOf d l)).lookup q).or (idx.lookup q) := by
  rw [loadedIdx, lookup_set, lookup_setAll, lookup_setAll, lookup_nil, Option.or_none]

theorem loadAt_eq {load : Oid → Option Listing} {idx : LIndex} {d : Key} {e : LEntry} {l : Listing}
    (hd : idx.lookup d = some e) (hc : (e.isdir && !e.loaded) = true) (hl : e.hash.bind load = some l) :
    loadAt load idx d = loadedIdx idx d e l := by
  simp only [loadAt, loadedIdx, hd, hc, hl, if_true]

theorem loadAt_cases (load : Oid → Option Listing) (idx : LIndex) (d : Key) :
    (¬ UL load idx d ∧ loadAt load idx d = idx) ∨
    ∃ e l, idx.lookup d = some e ∧ (e.isdir && !e.loaded) = true ∧ e.hash.bind load = some l ∧
      loadAt load idx d = loadedIdx idx d e l := by
  by_cases h : UL load idx d
  · obtain ⟨e, hd, hc, hl⟩ := h
    obtain ⟨l, hl⟩ := Option.isSome_iff_exists.mp hl
    exact Or.inr ⟨e, l, hd, hc, hl, loadAt_eq hd hc hl⟩
  · -- each test `loadAt` makes is a conjunct of `UL`
    refine Or.inl ⟨h, ?_⟩
    fun_cases loadAt load idx d
    -- case1: all three tests pass and the directory is loaded; in the other three branches `loadAt` returns `idx`
    case case1 e hd hc l hl => exact absurd ⟨e, hd, hc, by rw [hl]; rfl⟩ h
    all_goals rfl

theorem unloaded_of_loadedIdx {idx : LIndex} {d : Key} {e : LEntry} {l : Listing} {d2 : Key} {e2 : LEntry}
    (h2 : (loadedIdx idx d e l).lookup d2 = some e2)
    (hc2 : (e2.isdir && !e2.loaded) = true) : d2 ≠ d ∧ idx.lookup d2 = some e2 := by
  rw [lookup_loadedIdx] at h2
  split at h2
  · cases h2; simp at hc2
  · next hne =>
    rcases Option.or_eq_some_iff.mp h2 with h | ⟨_, h⟩
    · rw [childrenOf_not_unloaded (mem_of_lookup_setAll_nil h)] at hc2; cases hc2
    · exact ⟨fun h => hne h.symm, h⟩

theorem bound_of_loadedIdx {idx : LIndex} {d : Key} {e : LEntry} {l : Listing} {q : Key}
    (hq : ((loadedIdx idx d e l).lookup q).isSome = true) :
    (idx.lookup q).isSome = true ∨ d <+: q := by
  rw [lookup_loadedIdx] at hq
  split at hq
  · next h => exact Or.inr (h ▸ List.prefix_refl d)
  · rw [Option.isSome_or, Bool.or_eq_true] at hq
    rcases hq with hq | hq
    · obtain ⟨v, hv⟩ := Option.isSome_iff_exists.mp hq
      exact Or.inr (childrenOf_below (mem_of_lookup_setAll_nil hv))
    · exact Or.inl hq

/-- **loading any directory does not change what the index means at any key** -/
theorem loadAt_denote (load : Oid → Option Listing) (hlo : ListingsOK load) (idx : LIndex) (hw : W1 idx) (d k : Key) :
    denote load (loadAt load idx d) k = denote load idx k := by
  rcases loadAt_cases load idx d with ⟨_, h⟩ | ⟨e, l, hd, hc, hl, h⟩ <;> rw [h]
  by_cases hdk : d <+: k
  · by_cases hkd : d = k
    · subst hkd
      rw [denote_of_lookup hd, denote_of_lookup (by rw [lookup_loadedIdx, if_pos rfl])]
      rfl
    · -- strictly below `d`: before, `k` is unbound and means what the directory object lists; after, that is bound
      have hk : idx.lookup k = none := by
        cases h : idx.lookup k with
        | none => rfl
        | some x => exact absurd (hw d e hd hc k (by rw [h]; rfl) hdk).symm hkd
      have hk' : (loadedIdx idx d e l).lookup k = (setAll [] (childrenOf d l)).lookup k := by
        rw [lookup_loadedIdx, if_neg hkd, hk, Option.or_none]
      have hb : below load idx k = (setAll [] (childrenOf d l)).lookup k :=
        below_eq (longestPrefix_of_unloaded hw hd hc hdk) hd hc hl
      unfold denote
      rw [hk, hk', hb]
      cases hch : (setAll [] (childrenOf d l)).lookup k with
      | some v => rfl
      | none =>
        -- not listed: nothing at or below `d` in the new index is an unloaded directory, so nothing provides `k`
        refine congrArg (Option.map proj) (below_eq_none fun p hlp ⟨e2, h2, hc2, _⟩ => ?_)
        obtain ⟨_, hpk, hmax⟩ := longestPrefix_eq_some_iff.mp hlp
        obtain ⟨hne, h2⟩ := unloaded_of_loadedIdx h2 hc2
        have hdp : d <+: p := List.prefix_of_prefix_length_le hdk hpk
          (hmax d (by rw [lookup_loadedIdx, if_pos rfl]; rfl) hdk)
        exact hne (hw d e hd hc p (by rw [h2]; rfl) hdp)
  · -- elsewhere no prefix of `k` is touched
    refine denote_congr fun q hqk => ?_
    rw [lookup_loadedIdx, if_neg fun h : d = q => hdk (h ▸ hqk)]
    cases hch : (setAll [] (childrenOf d l)).lookup q with
    | none => rfl
    | some v => exact absurd ((childrenOf_below (mem_of_lookup_setAll_nil hch)).trans hqk) hdk

theorem loadAt_W1 (load : Oid → Option Listing) (hlo : ListingsOK load) (idx : LIndex) (hw : W1 idx) (d : Key) :
    W1 (loadAt load idx d) := by
  rcases loadAt_cases load idx d with ⟨_, h⟩ | ⟨e, l, hd, hc, hl, h⟩ <;> rw [h]
  · exact hw
  · intro d2 e2 h2 hc2 q hq hd2q
    obtain ⟨hne, h2⟩ := unloaded_of_loadedIdx h2 hc2
    rcases bound_of_loadedIdx hq with hq | hdq
    · exact hw d2 e2 h2 hc2 q hq hd2q
    · -- `d` and `d2` are both prefixes of `q`, hence comparable: one unloaded directory of the old index below another
      rcases List.prefix_or_prefix_of_prefix hdq hd2q with h | h
      · exact absurd (hw d e hd hc d2 (by rw [h2]; rfl) h) hne
      · exact absurd (hw d2 e2 h2 hc2 d (by rw [hd]; rfl) h).symm hne

theorem loadAt_WF (load : Oid → Option Listing) (idx : LIndex) (h : AList.WF idx) (d : Key) : AList.WF (loadAt load idx d) := by
  rcases loadAt_cases load idx d with ⟨_, he⟩ | ⟨e, l, _, _, _, he⟩ <;> rw [he]
  · exact h
  · exact wf_set _ _ _ (wf_foldl_set _ _ h)

/-- loading never creates an unloaded directory, and the one loaded is no longer unloaded -/
theorem loadAt_UL (load : Oid → Option Listing) (idx : LIndex) (x d : Key) (h : UL load (loadAt load idx x) d) :
    UL load idx d ∧ d ≠ x := by
  rcases loadAt_cases load idx x with ⟨hnot, he⟩ | ⟨ex, l, _, _, _, he⟩ <;> rw [he] at h
  · exact ⟨h, fun hdx => hnot (hdx ▸ h)⟩
  · obtain ⟨e, h1, h2, h3⟩ := h
    obtain ⟨hne, h1⟩ := unloaded_of_loadedIdx h1 h2
    exact ⟨⟨e, h1, h2, h3⟩, hne⟩

theorem loadAt_idempotent (load : Oid → Option Listing) (idx : LIndex) (d : Key) :
    loadAt load (loadAt load idx d) d = loadAt load idx d := by
  rcases loadAt_cases load (loadAt load idx d) d with ⟨_, h⟩ | ⟨e, l, hd, hc, hl, _⟩
  · exact h
  · -- a second load would find `d` still `UL`, which `loadAt_UL` excludes
    exact absurd rfl (loadAt_UL load idx d d ⟨e, hd, hc, by rw [hl]; rfl⟩).2

/-- loading a directory leaves every entry that is neither the directory nor one of the listed
    paths untouched -/
theorem loadAt_other (load : Oid → Option Listing) (idx : LIndex) (d k : Key) (hk : k ≠ d)
    (hnb : ∀ l e, idx.lookup d = some e → e.hash.bind load = some l → ∀ c ∈ childrenOf d l, c.1 ≠ k) :
    (loadAt load idx d).lookup k = idx.lookup k := by
  rcases loadAt_cases load idx d with ⟨_, h⟩ | ⟨e, l, hd, _, hl, h⟩ <;> rw [h]
  rw [lookup_loadedIdx, if_neg hk.symm]
  cases hc : (setAll [] (childrenOf d l)).lookup k with
  | none => rfl
  | some v => exact absurd rfl (hnb l e hd hl (k, v) (mem_of_lookup_setAll_nil hc))

end DvcData.IndexLazy

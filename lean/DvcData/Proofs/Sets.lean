import DvcData.Model.Status
import DvcData.Proofs.AList
/-
  The list-as-set vocabulary of `Model/Status.lean` (`union`, `inter`, `diff`, `dedup`) by membership, and `listed`, the one
  expansion that `status` (`collect`) and `gc` (`gcUsed`) share.
-/
namespace DvcData.Status

variable {Oid : Type} [DecidableEq Oid] {a b : List Oid} {y : Oid}

theorem mem_union : y ∈ union a b ↔ y ∈ a ∨ y ∈ b := mem_foldl_insertSet

theorem mem_inter : y ∈ inter a b ↔ y ∈ a ∧ y ∈ b := by
  simp [inter]

theorem mem_diff : y ∈ diff a b ↔ y ∈ a ∧ y ∉ b := by
  simp [diff]

theorem mem_dedup : y ∈ dedup a ↔ y ∈ a := by
  simp [dedup, mem_union]

/-- the model's idiom for `a \ b`: `diff a (inter a b)` -/
theorem mem_diff_inter : y ∈ diff a (inter a b) ↔ y ∈ a ∧ y ∉ b := by
  simp only [mem_diff, mem_inter, not_and]
  exact ⟨fun h => ⟨h.1, h.2 h.1⟩, fun h => ⟨h.1, fun _ => h.2⟩⟩

/-- what `status` and `gc` both ask a directory object for: its listing, unless `shallow` -/
def listed (env : Env Oid) (shallow : Bool) (v : Oid) : List Oid :=
  if env.isDir v && !shallow then (env.load v).getD [] else []

omit [DecidableEq Oid] in
theorem mem_listed {env : Env Oid} {shallow : Bool} {v x : Oid} :
    x ∈ listed env shallow v ↔ shallow = false ∧ env.isDir v = true ∧ ∃ es, env.load v = some es ∧ x ∈ es := by
  unfold listed
  cases shallow <;> cases env.isDir v <;> cases env.load v <;> simp

end DvcData.Status

import DvcData.Model.Tree
import DvcData.Proofs.Path
import DvcData.Proofs.AList
/-!
What C03 and C20 both need of `Model/Tree.lean`: the hash dict of an entry has at most one item (`hiToDict_cases`), a sort by
an injective string key depends on the set only (`sortByFst_perm`; C10b uses it for the link record as well), the listing is the
entries' dicts in another order (`asList_eq_map`).
-/

namespace DvcData.MetaInfo
open Json

/-! `HashInfo.to_dict` by cases: for `hiToDict_cases` below, and (with its last conjunct) for the hash round trip of C20 -/

theorem HashInfo.toDict_cases (h : HashInfo) :
    h.toDict = [] ∨ ∃ n v, h.toDict = [(n, .str v)] ∧ (v.isEmpty || n.isEmpty) = false := by
  unfold HashInfo.toDict
  split
  · split
    · exact .inl rfl
    · next hne => exact .inr ⟨_, _, rfl, Bool.not_eq_true _ ▸ hne⟩
  · exact .inl rfl

end DvcData.MetaInfo

namespace DvcData.Tree
open DvcData Path Json MetaInfo List

theorem hiToDict_cases (h : Option HashInfo) : hiToDict h = [] ∨ ∃ n v, hiToDict h = [(n, .str v)] := by
  cases h with
  | none => exact .inl rfl
  | some h =>
    rw [hiToDict]
    by_cases ht : (!h.truthy) = true
    · rw [if_pos ht]; exact .inl rfl
    rw [if_neg ht]
    by_cases hn : h.name = some dos2unixName
    · rw [if_pos hn]
      cases h.value with
      | none => exact .inl rfl
      | some v => exact .inr ⟨_, v, rfl⟩
    · rw [if_neg hn]
      exact h.toDict_cases.imp_right fun ⟨n, v, e, _⟩ => ⟨n, v, e⟩

theorem charsLe_iff {a b : List Char} : charsLe a b = true ↔ a ≤ b := decide_eq_true_iff

/-- sorting by the first component a list whose first components are pairwise distinct gives a
    result that depends only on the *set* of elements -/
theorem sortByFst_perm {β : Type} (l1 l2 : List (List Char × β)) (hp : l1 ~ l2)
    (hnd : (l1.map (·.1)).Nodup) :
    l1.mergeSort (fun a b => charsLe a.1 b.1) = l2.mergeSort (fun a b => charsLe a.1 b.1) := by
  let le : List Char × β → List Char × β → Bool := fun a b => charsLe a.1 b.1
  have tr : ∀ a b c : List Char × β, le a b = true → le b c = true → le a c = true :=
    fun a b c h1 h2 => charsLe_iff.mpr (List.le_trans (charsLe_iff.mp h1) (charsLe_iff.mp h2))
  have tot : ∀ a b : List Char × β, (le a b || le b a) = true := fun a b => by
    simpa only [le, Bool.or_eq_true, charsLe_iff] using List.le_total a.1 b.1
  -- two sorted lists with the same elements are equal provided the order is antisymmetric on them: here elements
  -- that are below each other have the same first component, and `hnd` makes those equal
  refine Perm.eq_of_pairwise (le := fun a b => le a b = true) ?_ (pairwise_mergeSort tr tot l1)
    (pairwise_mergeSort tr tot l2) ((mergeSort_perm l1 le).trans (hp.trans (mergeSort_perm l2 le).symm))
  intro a b ha hb hab hba
  exact inj_on_of_nodup_map hnd (mem_mergeSort.mp ha) (hp.mem_iff.mpr (mem_mergeSort.mp hb))
    (List.le_antisymm (charsLe_iff.mp hab) (charsLe_iff.mp hba))

theorem asList_perm (w : Bool) (t1 t2 : Tree) (hp : t1 ~ t2) (hwf : AList.WF t1) (hok : ∀ e ∈ t1, KeyOK e.1) :
    asList w t1 = asList w t2 := by
  -- distinct well-formed keys have distinct relpaths
  have hnd : (t1.map fun e => joinC e.1).Nodup :=
    pairwise_map.mpr ((pairwise_map.mp hwf).imp_of_mem fun ha hb hne e =>
      hne (joinC_injective _ _ (hok _ ha) (hok _ hb) e))
  unfold asList
  congr 1
  apply sortByFst_perm _ _ (hp.map _)
  simpa [Function.comp_def] using hnd

/-- the listing is the entries' dicts in another order: the handle on `asList` that C03 and C20 both go through -/
theorem asList_eq_map (w : Bool) (t : Tree) : ∃ es : Tree, es ~ t ∧ asList w t = es.map (entryDict w) :=
  ⟨t.mergeSort fun a b => charsLe (joinC a.1) (joinC b.1), mergeSort_perm _ _, by
    -- `asList` maps each entry by `f e = (joinC e.1, entryDict w e)`, sorts the pairs by their first component and keeps the
    -- second. `map_mergeSort`, read backwards, moves the sort in front of `f`: sorting the pairs `f e` by `.1` is sorting the
    -- entries by `joinC e.1` (the order of the witness above) - its side condition, that the two orders agree along `f`, is
    -- the `rfl`. After `map_map` the closing `rfl` is `(f e).2 = entryDict w e`.
    rw [asList, ← map_mergeSort (f := fun e => (joinC e.1, entryDict w e)) (fun _ _ _ _ => rfl), map_map]; rfl⟩

/-- without metadata an entry's dict depends on its key and hash only -/
theorem entryDict_false_meta (k : Key) (m1 m2 : Option Meta) (h : Option HashInfo) :
    entryDict false (k, (m1, h)) = entryDict false (k, (m2, h)) := rfl

/-- forget the metadata of every entry -/
def stripMeta (t : Tree) : Tree := t.map fun e => (e.1, (none, e.2.2))

theorem asList_stripMeta (t : Tree) : asList false (stripMeta t) = asList false t := by
  unfold asList stripMeta
  simp only [map_map]
  rfl

end DvcData.Tree

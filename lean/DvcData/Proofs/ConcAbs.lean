import DvcData.Model.Conc
/-!
# Finite abstraction of the concurrent-writers model

For one object name, what matters is (a) whether something is there, whether it matches its name
and whether it is write-protected, and (b) *which program counters are occupied* by the writers of
that name.  One writer's step acts on this abstraction as a finite function (`absStep`), and the
per-name invariant (`GoodAbs`) is a boolean function of the abstraction; that every step preserves
it is therefore a finite check (`absStep_good`), decided by the kernel — for any number of writers.
-/
namespace DvcData.Conc

/-- absent, or (matches its name, write-protected) -/
abbrev AObj := Option (Bool × Bool)

/-- occupancy flags of the writers of one name -/
structure Flags where
  u : Bool   -- somebody is between its probe's truncate and its unlink
  s : Bool   -- somebody has settled: saw a matching object, or renamed its own into place
  w : Bool   -- somebody has committed to replace the object and not yet renamed (or is lost: failed)
  n : Bool   -- somebody is not yet past its protect
  d : Bool   -- somebody is past its protect
  deriving DecidableEq, Repr

def Flags.or (a b : Flags) : Flags := ⟨a.u || b.u, a.s || b.s, a.w || b.w, a.n || b.n, a.d || b.d⟩

/-- the flags a writer at `pc` raises.  *Settled* (`s`) once it has seen a matching object (`vprotect`) or has one in place
    (`protect`: after its own rename, or having found the object protected), not yet in `restat`/`reread`, where it has seen
    nothing.  *Replacing* (`w`) from `probe` until its rename, and for good once it is lost (`rediscard`, `failed`): a lost
    writer may have removed the object and will not bring it back, so clause B of `GoodAbs` promises nothing while one exists. -/
def flagsOfPc : Pc → Flags
  | .stat => ⟨false, false, false, true, false⟩
  | .read => ⟨false, false, false, true, false⟩
  | .discard => ⟨false, false, false, true, false⟩
  | .vprotect => ⟨false, true, false, true, false⟩
  | .probe => ⟨false, false, true, true, false⟩
  | .unlink => ⟨true, false, true, true, false⟩
  | .create => ⟨false, false, true, true, false⟩
  | .write => ⟨false, false, true, true, false⟩
  | .protect => ⟨false, true, false, true, false⟩
  | .save => ⟨false, true, false, false, true⟩
  | .done => ⟨false, true, false, false, true⟩
  | .restat => ⟨false, false, false, true, false⟩
  | .reread => ⟨false, false, false, true, false⟩
  | .rediscard => ⟨false, false, true, true, false⟩
  | .failed => ⟨false, false, true, true, false⟩

/-- the per-name invariant: four clauses, the four conjuncts of the definition in this order, referred to by their letters
  * A  nobody in the truncate–unlink window → a protected object matches its name
  * H  somebody settled, nobody in that window → whatever is there matches its name
  * B  somebody settled, nobody replacing (or lost) → the object is there
  * C  everybody past protect (and somebody is) → the object is there and protected -/
def GoodAbs (o : AObj) (f : Flags) : Bool :=
  (f.u || match o with | some (g, true) => g | _ => true) &&
  (!f.s || f.u || match o with | some (g, _) => g | none => true) &&
  (f.w || !f.s || o.isSome) &&
  (f.n || !f.d || match o with | some (_, true) => true | _ => false)

/-- one writer's step on the abstraction.  `e`: the empty file matches this name; `last`: the copy
    loop has written everything (the step of `write` is the rename) -/
def absStep (root e last : Bool) (o : AObj) (pc : Pc) : AObj × Pc :=
  match pc with
  | .stat => match o with
    | none => (o, .probe)
    | some (_, true) => (o, .protect)
    | some (_, false) => (o, .read)
  | .read => match o with
    | none => (o, .probe)
    | some (true, _) => (o, .vprotect)
    | some (false, _) => (o, .discard)
  | .discard => (none, .probe)
  | .vprotect => (o.map fun x => (x.1, true), .protect)
  | .probe => match o with
    | some (g, true) => if root then (some (e, true), .unlink) else (some (g, true), .restat)
    | some (_, false) => (some (e, false), .unlink)
    | none => (some (e, false), .unlink)
  | .unlink => (none, .create)
  | .create => (o, .write)
  | .write => if last then (some (true, false), .protect) else (o, .write)
  | .protect => (o.map fun x => (x.1, true), .save)
  | .save => (o, .done)
  | .done => (o, .done)
  | .restat => match o with
    | none => (o, .failed)
    | some (_, true) => (o, .protect)
    | some (_, false) => (o, .reread)
  | .reread => match o with
    | none => (o, .failed)
    | some (true, _) => (o, .vprotect)
    | some (false, _) => (o, .rediscard)
  | .rediscard => (none, .failed)
  | .failed => (o, .failed)

/-- what any set of writers satisfies: in the window ⊆ replacing ⊆ not past protect; past protect ⊆ settled -/
def Flags.ok (f : Flags) : Bool := (!f.u || f.w) && (!f.w || f.n) && (!f.d || f.s)

theorem Flags.ok_iff {f : Flags} : f.ok = true ↔
    (f.u = true → f.w = true) ∧ (f.w = true → f.n = true) ∧ (f.d = true → f.s = true) := by
  simp only [Flags.ok, Bool.and_eq_true, Bool.or_eq_true, Bool.not_eq_true', Decidable.imp_iff_not_or,
    Bool.not_eq_true, and_assoc]

theorem flagsOfPc_ok (pc : Pc) : (flagsOfPc pc).ok = true := by cases pc <;> rfl

theorem Flags.or_ok (a b : Flags) (ha : a.ok = true) (hb : b.ok = true) : (a.or b).ok = true := by
  rw [Flags.ok_iff] at *
  simp only [Flags.or, Bool.or_eq_true]
  exact ⟨Or.imp ha.1 hb.1, Or.imp ha.2.1 hb.2.1, Or.imp ha.2.2 hb.2.2⟩

def bools : List Bool := [false, true]
def allPcs : List Pc := [.stat, .read, .discard, .vprotect, .probe, .unlink, .create, .write, .protect, .save, .done,
  .restat, .reread, .rediscard, .failed]
def allObjs : List AObj := [none, some (false, false), some (false, true), some (true, false), some (true, true)]
def allFlags : List Flags :=
  bools.flatMap fun a => bools.flatMap fun b => bools.flatMap fun c => bools.flatMap fun d => bools.map fun e => ⟨a, b, c, d, e⟩

theorem mem_bools (b : Bool) : b ∈ bools := by cases b <;> decide
theorem mem_allPcs (pc : Pc) : pc ∈ allPcs := by cases pc <;> decide
theorem mem_allObjs (o : AObj) : o ∈ allObjs := by rcases o with _ | ⟨_ | _, _ | _⟩ <;> decide
theorem mem_allFlags (f : Flags) : f ∈ allFlags := by
  obtain ⟨a, b, c, d, e⟩ := f
  simp only [allFlags, List.mem_flatMap, List.mem_map]
  exact ⟨a, mem_bools a, b, mem_bools b, c, mem_bools c, d, mem_bools d, e, mem_bools e, rfl⟩

/-- the whole finite table: 2·2·2 × 15 × 5 × 32 cases -/
def checkAll : Bool :=
  bools.all fun root => bools.all fun e => bools.all fun last => allPcs.all fun pc => allObjs.all fun o => allFlags.all fun fo =>
    !fo.ok || !GoodAbs o (fo.or (flagsOfPc pc)) ||
      GoodAbs (absStep root e last o pc).1 (fo.or (flagsOfPc (absStep root e last o pc).2))

theorem checkAll_true : checkAll = true := by decide +kernel

/-- **the finite core**: whatever the other writers of the name are doing (`fo`), a step of one
    writer preserves the per-name invariant -/
theorem absStep_good (root e last : Bool) (o : AObj) (pc : Pc) (fo : Flags) (hok : fo.ok = true)
    (h : GoodAbs o (fo.or (flagsOfPc pc)) = true) :
    GoodAbs (absStep root e last o pc).1 (fo.or (flagsOfPc (absStep root e last o pc).2)) = true := by
  have := checkAll_true
  simp only [checkAll, List.all_eq_true] at this
  have := this root (mem_bools _) e (mem_bools _) last (mem_bools _) pc (mem_allPcs _) o (mem_allObjs _) fo (mem_allFlags _)
  simpa [hok, h] using this

end DvcData.Conc
